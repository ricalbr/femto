/-
Every atom the compiler model emits is a known instruction, not a loop delimiter, and carries a positive feed if it
carries one ("every feed is positive and every number finite": an `Instr` holds exact rationals, so finiteness is
being a parsed instruction at all).
-/
import FemtoVerif.Proofs.Ops

namespace Femto.Gc
open Femto.Ctl

def goodInstr : Instr → Bool
  | .bad _ => false
  | .rep _ | .endrep | .forr .. | .next _ => false
  | .g1 w => (match w.f with | some f => decide (0 < f) | none => true)
  | _ => true

mutual
  def goodStmt : Stmt → Bool
    | .atom i => goodInstr i
    | .rep n body => decide (0 < n) && goodList body
    | .forr _ lo hi body => decide (lo ≤ hi) && goodList body
  def goodList : List Stmt → Bool
    | [] => true
    | s :: ss => goodStmt s && goodList ss
end

theorem goodList_append (a b : List Stmt) : goodList (a ++ b) = (goodList a && goodList b) :=
  check_append rfl (fun _ _ => rfl) a b

theorem goodList_emit (is : List Instr) (h : ∀ i ∈ is, goodInstr i = true) : goodList (emit is) = true :=
  check_emit rfl (fun _ _ => rfl) is h

theorem op_good (i : Instr) (h : opInstr i = true) : goodInstr i = true := by
  unfold goodInstr
  split <;> first | rfl | cases h | exact h

/-- the feed of `originW`, which does not pass through `_format_args` -/
def speedOK (cfg : Cfg) : Prop := 0 < fmt 6 cfg.speedPos

theorem rot_good {cfg : Cfg} (h : speedOK cfg) (i : Instr) (hi : rotInstr cfg i = true) : goodInstr i = true := by
  cases i with
  | g1 w => rw [of_decide_eq_true hi]; exact decide_eq_true h
  | _ => first | rfl | cases hi

def ResGood (r : Res) : Prop := goodList r.out = true ∧ goodList r.pre = true

theorem ResGood.compositional {cfg : Cfg} (hsp : speedOK cfg) : Compositional cfg fun _ r => ResGood r where
  leaf h := ⟨h.check goodList_emit op_good, by simp [h.pre, goodList]⟩
  andThen ha hf := andThen_cases ha ⟨by simp [goodList_append, ha.1, (hf _).1], by simp [goodList_append, ha.2, (hf _).2]⟩
  dvar _ _ := ⟨rfl, rfl⟩
  rep hn h := ⟨by simpa [goodList, goodStmt, goodInstr, h.1] using hn, h.2⟩
  forr hn _ h := ⟨by simpa [goodList, goodStmt, goodInstr, h.1] using Int.le_sub_one_of_lt hn, h.2⟩
  rot h := ⟨by simp [goodList_append, (enterRot_emits cfg _ _).check goodList_emit (rot_good hsp), h.1,
    (exitRot_emits cfg _).check goodList_emit (rot_good hsp)], h.2⟩
  attempt h := h

theorem execOp_good (cfg : Cfg) (hsp : speedOK cfg) (op : Op) (cs : CS) : ResGood (execOp cfg op cs) :=
  (ResGood.compositional hsp).execOp op cs

end Femto.Gc
