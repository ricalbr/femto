/-
Loop variables are declared (C03 `session_vars_declared`): `for_loop` refuses an undeclared variable, `dvar` hoists its line to
the top of the file, nothing else declares, assigns or loops over a variable.  The operations carry a syntactic invariant
(`vfList D`: every FOR variable is in `D`); the controller's program-order scan `scanVars` follows from it at the end.
-/
import FemtoVerif.Proofs.Ops
import FemtoVerif.Spec.WF
import Batteries.Data.Char.AsciiCasing

namespace Femto.Gc
open Femto.Ctl

theorem lower_idem (s : String) : lower (lower s) = lower s := by
  simp [lower, List.map_map, Function.comp_def]

/-- variable-free (`vf`): an instruction that neither declares nor uses a variable -/
def vfInstr : Instr → Bool
  | .dvar _ | .setVar .. | .incVar .. | .forr .. | .next _ => false
  | _ => true

mutual
  def vfStmt (D : List String) : Stmt → Bool
    | .atom i => vfInstr i
    | .rep _ body => vfList D body
    | .forr v _ _ body => D.contains v && vfList D body
  def vfList (D : List String) : List Stmt → Bool
    | [] => true
    | s :: ss => vfStmt D s && vfList D ss
end

variable {D : List String}

theorem vf_append (a b : List Stmt) : vfList D (a ++ b) = (vfList D a && vfList D b) :=
  check_append rfl (fun _ _ => rfl) a b

theorem vf_emit (is : List Instr) (h : ∀ i ∈ is, vfInstr i = true) : vfList D (emit is) = true :=
  check_emit rfl (fun _ _ => rfl) is h

mutual
  theorem vfStmt_mono {D D' : List String} (hsub : ∀ v, D.contains v = true → D'.contains v = true) (s : Stmt)
      (h : vfStmt D s = true) : vfStmt D' s = true := by
    match s with
    | .atom i => simpa [vfStmt] using h
    | .rep n body =>
      rw [vfStmt] at h ⊢
      exact vfList_mono hsub body h
    | .forr v lo hi body =>
      rw [vfStmt, Bool.and_eq_true] at h ⊢
      exact ⟨hsub v h.1, vfList_mono hsub body h.2⟩
  theorem vfList_mono {D D' : List String} (hsub : ∀ v, D.contains v = true → D'.contains v = true) (ss : List Stmt)
      (h : vfList D ss = true) : vfList D' ss = true := by
    match ss with
    | [] => simp [vfList]
    | s :: rest =>
      rw [vfList, Bool.and_eq_true] at h ⊢
      exact ⟨vfStmt_mono hsub s h.1, vfList_mono hsub rest h.2⟩
end

theorem op_vf (i : Instr) (h : opInstr i = true) : vfInstr i = true := by
  unfold vfInstr
  split <;> first | rfl | cases h

theorem rot_vf (cfg : Cfg) (i : Instr) (h : rotInstr cfg i = true) : vfInstr i = true := by
  unfold vfInstr
  split <;> first | rfl | cases h

def declared : List Stmt → List String
  | [] => []
  | .atom (.dvar vs) :: r => vs ++ declared r
  | _ :: r => declared r

def preOK : List Stmt → Bool
  | [] => true
  | .atom (.dvar _) :: r => preOK r
  | .atom .blank :: r => preOK r
  | _ => false

/- `declared`, `preLower` and `preOK` end in a default equation.  A proof that follows their recursion uses `fun_induction` (one case
per equation, the default one with the hypothesis that no earlier pattern applies) instead of a case split over all of `Instr`. -/
theorem declared_append (a b : List Stmt) : declared (a ++ b) = declared a ++ declared b := by
  fun_induction declared a with
  | case1 => rfl
  | case2 vs r ih => rw [List.cons_append, declared, ih, List.append_assoc]
  | case3 s r h ih => rw [List.cons_append, declared, ih]; exact h

theorem preOK_append (a b : List Stmt) : preOK (a ++ b) = (preOK a && preOK b) := by
  induction a with
  | nil => rfl
  | cons s r ih =>
    cases s with
    | atom i =>
      cases i with
      | dvar _ | blank => exact ih
      | _ => rfl
    | _ => rfl

/-- hoisted names are lower-cased already, so the `lower` of `scanVars` is the identity on them -/
def preLower : List Stmt → Prop
  | [] => True
  | .atom (.dvar vs) :: r => (∀ v ∈ vs, lower v = v) ∧ preLower r
  | _ :: r => preLower r

theorem preLower_append (a b : List Stmt) (ha : preLower a) (hb : preLower b) : preLower (a ++ b) := by
  fun_induction preLower a with
  | case1 => exact hb
  | case2 vs r ih => exact ⟨ha.1, ih ha.2⟩
  | case3 s r h ih => rw [List.cons_append, preLower]; exacts [ih ha, h]

/-- `out` is stated for the names known at the end: they only grow, and `vfList` is monotone in `D` -/
structure ResV (cs : CS) (r : Res) : Prop where
  grows : ∀ v, cs.dvars.contains v = true → r.cs.dvars.contains v = true
  hoisted : ∀ v, r.cs.dvars.contains v = true → cs.dvars.contains v = true ∨ (declared r.pre).contains v = true
  out : vfList r.cs.dvars r.out = true
  pre : preOK r.pre = true
  lowerPre : preLower r.pre

/-- `ResV` reads the two states through their declared names only -/
theorem ResV.congr {c c' : CS} {r r' : Res} (h : ResV c r) (hc : c.dvars = c'.dvars) (hr : r'.cs.dvars = r.cs.dvars)
    (hp : r'.pre = r.pre) (ho : vfList r.cs.dvars r'.out = true) : ResV c' r' where
  grows v hv := by rw [hr]; exact h.grows v (hc ▸ hv)
  hoisted v hv := by rw [← hc, hp]; exact h.hoisted v (hr ▸ hv)
  out := hr ▸ ho
  pre := hp ▸ h.pre
  lowerPre := hp ▸ h.lowerPre

theorem ResV.compositional (cfg : Cfg) : Compositional cfg ResV where
  leaf h := {
    grows := fun v hv => by rw [h.dvars]; exact hv
    hoisted := fun v hv => Or.inl (by rwa [h.dvars] at hv)
    out := h.check vf_emit op_vf
    pre := by simp [h.pre, preOK]
    lowerPre := by simp [h.pre, preLower] }
  andThen {_ a _} ha hf :=
    have hb := hf a.cs
    andThen_cases ha {
      grows := fun v hv => hb.grows v (ha.grows v hv)
      hoisted := fun v hv => by
        rw [declared_append, List.contains_append, Bool.or_eq_true]
        exact (hb.hoisted v hv).elim (fun h => (ha.hoisted v h).imp_right .inr) fun h => .inr (.inl h)
      out := by rw [vf_append, vfList_mono hb.grows _ ha.out, hb.out]; rfl
      pre := by rw [preOK_append, ha.pre, hb.pre]; rfl
      lowerPre := preLower_append _ _ hb.lowerPre ha.lowerPre }
  dvar vs cs := {
    grows := fun v hv => by rw [List.contains_append, hv]; rfl
    hoisted := fun v hv => by
      rw [List.contains_append, Bool.or_eq_true] at hv
      exact hv.imp_right fun h => by simpa [declared, emit] using h
    out := rfl
    pre := rfl
    lowerPre := ⟨fun v hv => by obtain ⟨u, _, rfl⟩ := List.mem_map.mp hv; exact lower_idem u, trivial⟩ }
  rep _ hb := hb.congr rfl rfl rfl (by simp [vfList, vfStmt, vfInstr, hb.out])
  forr _ hv hb := hb.congr rfl rfl rfl (by simpa [vfList, vfStmt, vfInstr, hb.out] using hb.grows _ hv)
  rot {a cs r} hb :=
    hb.congr (enterRot_emits cfg a cs).dvars (exitRot_emits cfg r.cs).dvars rfl (by
      rw [vf_append, vf_append, (enterRot_emits cfg a cs).check vf_emit (rot_vf cfg), hb.out,
        (exitRot_emits cfg r.cs).check vf_emit (rot_vf cfg)]
      rfl)
  attempt hb := hb.congr rfl rfl rfl hb.out

theorem scanVars_skip (i : Instr) (h : vfInstr i = true) (is : List Instr) (D : List String) :
    scanVars (i :: is) D = scanVars is D := by
  -- the last equation of `scanVars`; its side conditions (`i` is none of the instructions named before) hold by `h`
  rw [scanVars] <;> (intros; subst_vars; cases h)

mutual
  theorem scanVars_vfStmt (D : List String) (s : Stmt) (h : vfStmt D s = true) (rest : List Instr) :
      scanVars (flattenStmt s ++ rest) D = scanVars rest D := by
    match s with
    | .atom i =>
      rw [vfStmt] at h
      simp only [flattenStmt, List.singleton_append]
      exact scanVars_skip i h rest D
    | .rep n body =>
      rw [vfStmt] at h
      simp only [flattenStmt, List.cons_append, List.append_assoc]
      rw [scanVars_skip _ (by rfl), scanVars_vfList D body h]
      exact scanVars_skip _ (by rfl) rest D
    | .forr v lo hi body =>
      rw [vfStmt, Bool.and_eq_true] at h
      simp only [flattenStmt, List.cons_append, List.append_assoc]
      simp only [scanVars, h.1, Bool.true_and]
      rw [scanVars_vfList D body h.2]
      simp [scanVars]
  theorem scanVars_vfList (D : List String) (ss : List Stmt) (h : vfList D ss = true) (rest : List Instr) :
      scanVars (flattenStmts ss ++ rest) D = scanVars rest D := by
    match ss with
    | [] => simp [flattenStmts]
    | s :: more =>
      rw [vfList, Bool.and_eq_true] at h
      simp only [flattenStmts, List.append_assoc]
      rw [scanVars_vfStmt D s h.1, scanVars_vfList D more h.2]
end

theorem scanVars_pre (pre : List Stmt) (h : preOK pre = true) (hl : preLower pre) (rest : List Instr) (D : List String) :
    ∃ D', scanVars (flattenStmts pre ++ rest) D = scanVars rest D' ∧ ∀ v, v ∈ D' ↔ v ∈ declared pre ∨ v ∈ D := by
  fun_induction preOK pre generalizing D with
  | case1 => exact ⟨D, rfl, fun v => by simp [declared]⟩
  | case2 vs r ih =>
    obtain ⟨D', h1, h2⟩ := ih h hl.2 (vs.map lower ++ D)
    refine ⟨D', h1, fun v => ?_⟩
    rw [h2, List.map_congr_left hl.1, List.map_id', declared, List.mem_append, List.mem_append, or_left_comm, or_assoc]
  | case3 r ih => exact ih h hl D
  | case4 => cases h

def headerVarFree (h : List Instr) : Bool := h.all vfInstr

theorem scanVars_varFree (is : List Instr) (h : is.all vfInstr = true) (rest : List Instr) (D : List String) :
    scanVars (is ++ rest) D = scanVars rest D := by
  rw [← flattenStmts_emit is]
  exact scanVars_vfList D _ (vf_emit is (List.all_eq_true.mp h)) rest

end Femto.Gc
