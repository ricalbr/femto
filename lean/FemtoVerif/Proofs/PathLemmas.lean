/-
What the path primitives `start` / `linear` / `end` (`finish`) append.
-/
import FemtoVerif.Model.Path


namespace Femto.Pth
open Femto

/-- the row `linear` appends after a last row `l` -/
def nextRow (a : Attrs) (l : Row Rat) (dx dy dz : Option Rat) (abs : Bool) (shutter : Rat) (speed : Option Rat) : Row Rat :=
  if abs then ⟨dx.getD l.x, dy.getD l.y, dz.getD l.z, speed.getD a.speed, shutter⟩
  else ⟨l.x + dx.getD 0, l.y + dy.getD 0, l.z + dz.getD 0, speed.getD a.speed, shutter⟩

theorem start_fresh (a : Attrs) (x y z : Rat) (sp : Option Rat) :
    start a x y z sp [] = .ok [⟨x, y, z, sp.getD a.speedPos, 0⟩, ⟨x, y, z, sp.getD a.speedPos, 1⟩] := rfl

theorem start_nil (a : Attrs) (x y z : Rat) :
    start a x y z none [] = .ok [⟨x, y, z, a.speedPos, 0⟩, ⟨x, y, z, a.speedPos, 1⟩] := start_fresh a x y z none

theorem linear_of_last (a : Attrs) {t : Traj} {l : Row Rat} (hl : t.getLast? = some l) (dx dy dz : Option Rat) (abs : Bool)
    (s : Rat) (sp : Option Rat) : linear a dx dy dz abs s sp t = .ok (t ++ [nextRow a l dx dy dz abs s sp]) := by
  unfold linear nextRow
  rw [hl]
  cases abs <;> rfl

theorem linear_snoc (a : Attrs) (t : Traj) (l : Row Rat) (dx dy dz : Option Rat) (abs : Bool) (s : Rat) (sp : Option Rat) :
    linear a dx dy dz abs s sp (t ++ [l]) = .ok (t ++ [l] ++ [nextRow a l dx dy dz abs s sp]) :=
  linear_of_last a List.getLast?_concat ..

theorem linear_two (a : Attrs) (r l : Row Rat) (dx dy dz : Option Rat) (abs : Bool) (s : Rat) (sp : Option Rat) :
    linear a dx dy dz abs s sp [r, l] = .ok [r, l, nextRow a l dx dy dz abs s sp] :=
  linear_snoc a [r] l dx dy dz abs s sp

theorem linear_abs_full (a : Attrs) (t : Traj) (ht : t ≠ []) (x y z s : Rat) :
    linear a (some x) (some y) (some z) true s none t = .ok (t ++ [⟨x, y, z, a.speed, s⟩]) := by
  cases h : t.getLast? with
  | none => exact absurd (List.getLast?_eq_none_iff.mp h) ht
  | some l => exact linear_of_last a h ..

theorem linear_ok_inv {a : Attrs} {dx dy dz : Option Rat} {abs : Bool} {s : Rat} {sp : Option Rat} {t t' : Traj}
    (h : linear a dx dy dz abs s sp t = .ok t') : ∃ r : Row Rat, t' = t ++ [r] ∧ r.s = s := by
  cases hg : t.getLast? with
  | none => rw [linear, hg] at h; cases h
  | some l =>
    rw [linear_of_last a hg] at h
    exact ⟨_, (Except.ok.inj h).symm, by cases abs <;> rfl⟩

theorem finish_ok_inv {a : Attrs} {t t' : Traj} (h : finish a t = .ok t') :
    ∃ r₁ r₂ : Row Rat, t' = t ++ [r₁, r₂] ∧ r₁.s = 0 ∧ r₂.s = 0 := by
  unfold finish at h
  split at h
  · exact ⟨_, _, (Except.ok.inj h).symm, rfl, rfl⟩
  · cases h

theorem finish_of (a : Attrs) {t : Traj} {h l : Row Rat} (hh : t.head? = some h) (hl : t.getLast? = some l) :
    finish a t = .ok (t ++ [⟨l.x, l.y, l.z, l.f, 0⟩, ⟨h.x, h.y, h.z, a.speedClosed, 0⟩]) := by
  simp [finish, hh, hl]

theorem finish_snoc (a : Attrs) (h : Row Rat) (t : Traj) (l : Row Rat) :
    finish a (h :: (t ++ [l])) = .ok (h :: (t ++ [l]) ++ [⟨l.x, l.y, l.z, l.f, 0⟩, ⟨h.x, h.y, h.z, a.speedClosed, 0⟩]) :=
  finish_of a rfl (by rw [← List.cons_append, List.getLast?_append]; rfl)

end Femto.Pth
