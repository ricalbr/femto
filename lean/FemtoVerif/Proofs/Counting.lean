/-
Counting in steps of `d > 0`: the number `⌈x / d⌉` of steps that reach `x`, and the number `⌊x / d⌋` that fit in it.
-/
import Mathlib.Algebra.Order.Floor.Semiring
import Mathlib.Data.Rat.Floor

namespace Femto

theorem ceil_div_bounds {x d : ℚ} (hd : 0 < d) : (((x / d).ceil : ℚ) - 1) * d < x ∧ x ≤ (x / d).ceil * d :=
  ⟨(lt_div_iff₀ hd).mp (sub_lt_iff_lt_add.mpr Rat.ceil_lt), (div_le_iff₀ hd).mp Rat.le_ceil⟩

theorem floor_div_bounds {K : Type} [Field K] [LinearOrder K] [IsStrictOrderedRing K] [FloorSemiring K] {x d : K}
    (hx : 0 ≤ x) (hd : 0 < d) : (⌊x / d⌋₊ : K) * d ≤ x ∧ x < ((⌊x / d⌋₊ : K) + 1) * d :=
  ⟨(le_div_iff₀ hd).mp (Nat.floor_le (div_nonneg hx hd.le)), (div_lt_iff₀ hd).mp (Nat.lt_floor_add_one _)⟩

end Femto
