/-
The tree interpreter (`Spec/Tree.lean`).  Soundness of the static shutter discipline (`discStmts`): a disciplined calling file
never moves in x / y with the shutter open, whatever the loops do, and that holds recursively through `FARCALL`.  What a wall
pass leaves alone: the frame of an x / y-only leaf, and the view that the depth invariants of C06 read.
-/
import FemtoVerif.Spec.Tree
import FemtoVerif.Proofs.Step
import Mathlib.Algebra.Ring.Rat

namespace Femto.Ctl

/-- what the property demands of a trace: own open moves keep x and y; a called leaf sub-program may do what it likes (its
moves are the block's tool-path); a called calling file is entered with the shutter closed and is itself good -/
inductive Good (leaf : String → Bool) : List TEv → Prop
  | nil : Good leaf []
  | ev (e : Ev) (r : List TEv)
      (h : ∀ m, e = .move m → m.shutter = true → m.src.x = m.dst.x ∧ m.src.y = m.dst.y)
      (hr : Good leaf r) : Good leaf (.ev e :: r)
  | subLeaf (k : String) (s : Bool) (inner r : List TEv) (hk : leaf k = true) (hr : Good leaf r) :
      Good leaf (.sub k s inner :: r)
  | subCall (k : String) (inner r : List TEv) (hk : leaf k = false) (hi : Good leaf inner) (hr : Good leaf r) :
      Good leaf (.sub k false inner :: r)

theorem Good.append {leaf : String → Bool} {a b : List TEv} (ha : Good leaf a) (hb : Good leaf b) : Good leaf (a ++ b) := by
  induction ha with
  | nil => simpa
  | ev e r h _ ih => exact Good.ev e _ h ih
  | subLeaf k s inner r hk _ ih => exact Good.subLeaf k s inner _ hk ih
  | subCall k inner r hk hi _ _ ih => exact Good.subCall k inner _ hk hi ih

/-- a handler respects the discipline: whenever the abstract step `discAtom` is defined it predicts the shutter, and the events are good -/
def HOK (leaf : String → Bool) (h : Handler) : Prop :=
  ∀ σ i s', discAtom leaf σ.shutter i = some s' → (h σ i).1.shutter = s' ∧ Good leaf (h σ i).2

theorem discLoop_some {leaf : String → Bool} {s s' : Bool} {body : List Stmt}
    (hd : (match discStmts leaf s body with
      | some s1 => if s1 = s then some s else none
      | none => none) = some s') : discStmts leaf s body = some s ∧ s' = s := by
  split at hd
  · rename_i s1 hs1
    split at hd
    · rename_i he
      exact ⟨he ▸ hs1, (Option.some.inj hd).symm⟩
    · cases hd
  · cases hd

section generic
variable {leaf : String → Bool} {h : Handler}

theorem execRepG_sound (body : List Stmt)
    (hb : ∀ σ, discStmts leaf σ.shutter body = some σ.shutter →
      (execStmtsG h body σ).1.shutter = σ.shutter ∧ Good leaf (execStmtsG h body σ).2)
    (k : Nat) (σ : St) (hd : discStmts leaf σ.shutter body = some σ.shutter) :
    (execRepG h k body σ).1.shutter = σ.shutter ∧ Good leaf (execRepG h k body σ).2 := by
  induction k generalizing σ with
  | zero => simp [execRepG, Good.nil]
  | succ k ih =>
    rw [execRepG]
    obtain ⟨h1, g1⟩ := hb σ hd
    obtain ⟨h2, g2⟩ := ih (execStmtsG h body σ).1 (h1.symm ▸ hd)
    exact ⟨h2.trans h1, g1.append g2⟩

mutual
  theorem execStmtG_sound (hh : HOK leaf h) (s : Stmt) (σ : St) (s' : Bool) (hd : discStmt leaf σ.shutter s = some s') :
      (execStmtG h s σ).1.shutter = s' ∧ Good leaf (execStmtG h s σ).2 := by
    match s with
    | .atom i =>
      rw [execStmtG]
      rw [discStmt] at hd
      exact hh σ i s' hd
    | .rep n body =>
      rw [discStmt] at hd
      obtain ⟨hb, rfl⟩ := discLoop_some hd
      rw [execStmtG]
      exact execRepG_sound body (fun τ hτ => execStmtsG_sound hh body τ τ.shutter hτ) n σ hb
    | .forr v lo hi body =>
      -- as `REPEAT`, with an error event in front when the variable is not declared
      rw [discStmt] at hd
      obtain ⟨hb, rfl⟩ := discLoop_some hd
      have hr := execRepG_sound body (fun τ hτ => execStmtsG_sound hh body τ τ.shutter hτ) (hi - lo + 1).toNat σ hb
      rw [execStmtG]
      split
      · exact hr
      · exact ⟨hr.1, Good.ev _ _ (fun _ h => by cases h) hr.2⟩
  theorem execStmtsG_sound (hh : HOK leaf h) (ss : List Stmt) (σ : St) (s' : Bool) (hd : discStmts leaf σ.shutter ss = some s') :
      (execStmtsG h ss σ).1.shutter = s' ∧ Good leaf (execStmtsG h ss σ).2 := by
    match ss with
    | [] =>
      rw [discStmts] at hd
      rw [execStmtsG]
      exact ⟨Option.some.inj hd, Good.nil⟩
    | st :: rest =>
      rw [discStmts] at hd
      split at hd
      · rename_i s1 hs1
        obtain ⟨h1, g1⟩ := execStmtG_sound hh st σ s1 hs1
        obtain ⟨h2, g2⟩ := execStmtsG_sound hh rest (execStmtG h st σ).1 s' (h1.symm ▸ hd)
        rw [execStmtsG]
        exact ⟨h2, g1.append g2⟩
      · cases hd
end

theorem execStmtsG_keeps {α : Type} (π : St → α) (body : List Stmt) (hk : ∀ s ∈ body, ∀ σ, π (execStmtG h s σ).1 = π σ) (σ : St) :
    π (execStmtsG h body σ).1 = π σ := by
  induction body generalizing σ with
  | nil => rw [execStmtsG]
  | cons s rest ih =>
    rw [execStmtsG]
    exact (ih (fun s' hs' => hk s' (List.mem_cons_of_mem _ hs')) _).trans (hk s (List.mem_cons_self ..) σ)

end generic

theorem discAtom_farcall {leaf : String → Bool} {s s' : Bool} {p : String} (hd : discAtom leaf s (.farcall p) = some s') :
    s' = s ∧ (leaf (progKey p) = true ∨ s = false) := by
  rw [discAtom] at hd
  split at hd
  · exact ⟨(Option.some.inj hd).symm, .inl ‹_›⟩
  · split at hd
    · cases hd
    · rename_i hs
      have hs : s = false := by simpa using hs
      exact ⟨(Option.some.inj hd).symm.trans hs.symm, .inr hs⟩

theorem discAtom_keeps {leaf : String → Bool} {s s' : Bool} {i : Instr} (hd : discAtom leaf s i = some s')
    (hp : ∀ a on, i ≠ .pso a on) : s' = s := by
  -- the four cases of `discAtom`, not the 25 of `Instr`
  unfold discAtom at hd
  split at hd
  · exact absurd rfl (hp _ _)
  · split at hd
    · cases hd
    · exact (Option.some.inj hd).symm
  · exact (discAtom_farcall hd).1
  · exact (Option.some.inj hd).symm

theorem Good.ofEvents {leaf : String → Bool} (es : List Ev)
    (h : ∀ m, Ev.move m ∈ es → m.shutter = true → m.src.x = m.dst.x ∧ m.src.y = m.dst.y) : Good leaf (es.map .ev) := by
  induction es with
  | nil => exact Good.nil
  | cons e es ih =>
    exact Good.ev e _ (fun m hm => h m (hm ▸ List.mem_cons_self ..)) (ih fun m hm => h m (List.mem_cons_of_mem _ hm))

theorem stepFlat_ok (leaf : String → Bool) : HOK leaf stepFlat := by
  intro σ i s' hd
  refine ⟨?_, Good.ofEvents _ fun m hm hopen => ?_⟩
  · -- `PSOCONTROL` sets the shutter as the analysis says; nothing else touches it, and the analysis keeps it
    by_cases hp : ∃ a on, i = .pso a on
    · obtain ⟨a, on, rfl⟩ := hp
      exact Option.some.inj hd
    · have hp : ∀ a on, i ≠ .pso a on := fun a on e => hp ⟨a, on, e⟩
      exact (step_shutter σ i hp).trans (discAtom_keeps hd hp).symm
  · -- an open move comes from a `G1` the analysis let pass with the shutter open: it has no X and no Y word
    obtain ⟨hs, hsrc, w, rfl, hx, hy⟩ := step_move hm
    simp only [discAtom] at hd
    split at hd
    · cases hd
    · rename_i hcond
      have hxy : w.x = none ∧ w.y = none := by simpa [G1W.xy, ← hs, hopen] using hcond
      rw [hsrc, hx, hy, hxy.1, hxy.2, axisTarget_none, axisTarget_none]
      exact ⟨rfl, rfl⟩

theorem leaf_keeps_shutter (h : Handler) (hg1 : ∀ σ w, h σ (.g1 w) = stepFlat σ (.g1 w)) (hbl : ∀ σ, h σ .blank = stepFlat σ .blank)
    (body : List Stmt) (hl : isLeafBody body = true) (σ : St) : (execStmtsG h body σ).1.shutter = σ.shutter := by
  refine execStmtsG_keeps (·.shutter) body (fun s hs σ => ?_) σ
  -- the three cases of the `match` in `isLeafBody`, not the 25 of `Instr`
  have h1 := List.all_eq_true.mp hl s hs
  split at h1
  · rw [execStmtG, hg1]; rfl
  · rw [execStmtG, hbl]; rfl
  · cases h1

/-- `leaf` tells the truth about the files known by a name, and every file that is not a leaf sub-program is a disciplined
calling file -/
def TreeOK (leaf : String → Bool) (t : Tree) : Prop :=
  ∀ id body, t.find id = some body →
    leaf (progKey id) = isLeafBody body ∧ (isLeafBody body = true ∨ disciplined leaf body = true)

/-- the two instructions the tree handler executes itself -/
def byTree : Instr → Bool
  | .farcall _ | .load .. => true
  | _ => false

theorem stepT_flat (t : Tree) (f : Nat) (σ : St) (i : Instr) (h : byTree i = false) : stepT t f σ i = stepFlat σ i := by
  have h1 : ∀ p, i ≠ .farcall p := by rintro p rfl; cases h
  have h2 : ∀ k p, i ≠ .load k p := by rintro k p rfl; cases h
  cases f with
  | zero => rw [stepT]; exact h1
  | succ f => rw [stepT]; exacts [h1, h2]

theorem stepT_zero_load (t : Tree) (σ : St) (k : Nat) (p : String) : stepT t 0 σ (.load k p) = stepFlat σ (.load k p) := rfl

theorem stepT_g1 (t : Tree) (f : Nat) (σ : St) (w : G1W) : stepT t f σ (.g1 w) = stepFlat σ (.g1 w) := stepT_flat t f σ _ rfl

theorem stepT_blank (t : Tree) (f : Nat) (σ : St) : stepT t f σ .blank = stepFlat σ .blank := stepT_flat t f σ _ rfl

theorem stepT_farcall (t : Tree) (f : Nat) (σ : St) (p : String) :
    (∃ g id body, f = g + 1 ∧ lookupBound σ.bound (progKey p) = some id ∧ t.find id = some body ∧ progKey id = progKey p ∧
      stepT t f σ (.farcall p) =
        ((execStmtsG (stepT t g) body σ).1, [.sub (progKey p) σ.shutter (execStmtsG (stepT t g) body σ).2])) ∨
    ∃ msg, stepT t f σ (.farcall p) = (σ, [.ev (.err msg)]) := by
  cases f with
  | zero => exact .inr ⟨_, by rw [stepT]⟩
  | succ g =>
    rw [stepT]
    by_cases hl : σ.loaded.contains (progKey p) = true
    · rw [if_pos hl]
      cases hb : lookupBound σ.bound (progKey p) with
      | none => exact .inr ⟨_, rfl⟩
      | some id =>
        rw [Option.bind_some]
        cases hfind : t.find id with
        | none => exact .inr ⟨_, rfl⟩
        | some body =>
          rw [Option.map_some]
          by_cases hkey : progKey id = progKey p
          · exact .inl ⟨g, id, body, rfl, rfl, hfind, hkey, if_pos hkey⟩
          · exact .inr ⟨_, if_neg hkey⟩
    · exact .inr ⟨_, if_neg hl⟩

theorem stepT_ok (leaf : String → Bool) (t : Tree) (ht : TreeOK leaf t) (f : Nat) : HOK leaf (stepT t f) := by
  induction f using Nat.strong_induction_on with | _ f ih =>
  intro σ i s' hd
  have herr : ∀ msg : String, Good leaf [.ev (.err msg)] := fun _ => Good.ev _ _ (fun _ h => by cases h) Good.nil
  cases hi : byTree i with
  | false => rw [stepT_flat t f σ i hi]; exact stepFlat_ok leaf σ i s' hd
  | true =>
    -- the alternatives of `byTree`, not the 25 constructors of `Instr`
    unfold byTree at hi
    split at hi
    · rename_i p
      obtain ⟨rfl, hp⟩ := discAtom_farcall hd
      rcases stepT_farcall t f σ p with ⟨g, id, body, rfl, -, hfind, hkey, e⟩ | ⟨msg, e⟩ <;> rw [e]
      · obtain ⟨hleaf, hdisc⟩ := ht id body hfind
        rw [hkey] at hleaf
        cases hk : leaf (progKey p) with
        | true => exact ⟨leaf_keeps_shutter _ (stepT_g1 t g) (stepT_blank t g) body (hleaf ▸ hk) σ, Good.subLeaf _ _ _ _ hk Good.nil⟩
        | false =>
          -- a calling file: the analysis let the call pass only with the shutter closed, and the file is disciplined
          have hclosed : σ.shutter = false := hp.resolve_left (by simp [hk])
          have hbody : discStmts leaf σ.shutter body = some false := by
            rw [hclosed]
            simpa [disciplined] using hdisc.resolve_left (by simp [← hleaf, hk])
          obtain ⟨h1, g1⟩ := execStmtsG_sound (ih g (Nat.lt_succ_self g)) body σ false hbody
          exact ⟨h1.trans hclosed.symm, hclosed ▸ Good.subCall _ _ _ hk g1 Good.nil⟩
      · exact ⟨rfl, herr msg⟩
    · -- `PROGRAM LOAD`: the single-file step, then the binding; an error event more when the path resolves to no file
      rename_i k p
      obtain ⟨h1, g1⟩ := stepFlat_ok leaf σ (.load k p) s' hd
      cases f with
      | zero => rw [stepT_zero_load]; exact ⟨h1, g1⟩
      | succ f =>
        rw [stepT]
        split
        · exact ⟨h1, g1⟩
        · exact ⟨h1, g1.append (herr _)⟩
    · cases hi

theorem execRepG_flat_aux (body : List Stmt)
    (hb : ∀ σ, execStmtsG stepFlat body σ = ((execStmts body σ).1, (execStmts body σ).2.map .ev)) (k : Nat) (σ : St) :
    execRepG stepFlat k body σ = ((execRep k body σ).1, (execRep k body σ).2.map .ev) := by
  induction k generalizing σ with
  | zero => simp [execRepG, execRep]
  | succ k ih =>
    rw [execRepG, execRep]
    simp only [hb, ih, List.map_append]

mutual
  theorem execStmtG_flat (s : Stmt) (σ : St) :
      execStmtG stepFlat s σ = ((execStmt s σ).1, (execStmt s σ).2.map .ev) := by
    match s with
    | .atom i => rw [execStmtG, execStmt]; rfl
    | .rep n body =>
      rw [execStmtG, execStmt]
      exact execRepG_flat_aux body (fun σ => execStmtsG_flat body σ) n σ
    | .forr v lo hi body =>
      rw [execStmtG, execStmt]
      have := execRepG_flat_aux body (fun σ => execStmtsG_flat body σ) (hi - lo + 1).toNat σ
      simp only [this]
      split <;> simp
  theorem execStmtsG_flat (ss : List Stmt) (σ : St) :
      execStmtsG stepFlat ss σ = ((execStmts ss σ).1, (execStmts ss σ).2.map .ev) := by
    match ss with
    | [] => simp [execStmtsG, execStmts]
    | s :: rest =>
      rw [execStmtsG, execStmts]
      simp only [execStmtG_flat s, execStmtsG_flat rest, List.map_append]
end

/-- the part of the controller state an x/y-only sub-program cannot touch -/
structure Frame where
  shutter : Bool
  absMode : Bool
  declared : List String
  vals : List (String × Rat)
  loaded : List String
  bound : List (String × String)
  z : Option Rat
  rot : Bool
  dwell : Rat

def St.frame (σ : St) : Frame :=
  ⟨σ.shutter, σ.absMode, σ.declared, σ.vals, σ.loaded, σ.bound, σ.pos.z, σ.rot, σ.dwell⟩

theorem g1_frame (σ : St) (w : G1W) (hz : w.z = none) (hzv : w.zvar = none) : (step σ (.g1 w)).1.frame = σ.frame := by
  dsimp only [step, St.frame, zTarget]
  rw [hz, hzv, axisTarget_none]

theorem leafXY_frame (h : Handler) (hg1 : ∀ σ w, h σ (.g1 w) = stepFlat σ (.g1 w)) (hbl : ∀ σ, h σ .blank = stepFlat σ .blank)
    (body : List Stmt) (hl : isLeafXY body = true) (σ : St) : (execStmtsG h body σ).1.frame = σ.frame := by
  refine execStmtsG_keeps St.frame body (fun s hs σ => ?_) σ
  have h1 := List.all_eq_true.mp hl s hs
  split at h1
  · rename_i w
    simp only [Bool.and_eq_true, Option.isNone_iff_eq_none] at h1
    rw [execStmtG, hg1]
    exact g1_frame σ w h1.1.1 h1.1.2
  · rw [execStmtG, hbl]; rfl
  · cases h1

/-- the state in which a wall pass at depth `z` starts -/
structure Ready (t : Tree) (p : String) (z : Rat) (σ : St) : Prop where
  abs : σ.absMode = true
  loaded : σ.loaded.contains (progKey p) = true
  bound : ∃ id body, lookupBound σ.bound (progKey p) = some id ∧ t.find id = some body ∧ progKey id = progKey p ∧ isLeafXY body = true
  val : lookupVar σ.vals "zcurr" = some z
  posz : σ.pos.z = some z

theorem lookup_setVal (vals : List (String × Rat)) (v : String) (q : Rat) : lookupVar (setVal vals v q) v = some q := by
  simp [lookupVar, setVal]

/-- what `Ready` (and the depth invariants `Inv`, `InvF` of C06) read of the controller state -/
def view (σ : St) : Bool × List String × List (String × Rat) × List String × List (String × String) × Option Rat :=
  (σ.absMode, σ.declared, σ.vals, σ.loaded, σ.bound, σ.pos.z)

theorem view_eq {σ σ' : St} (h : view σ' = view σ) :
    σ'.absMode = σ.absMode ∧ σ'.declared = σ.declared ∧ σ'.vals = σ.vals ∧ σ'.loaded = σ.loaded ∧ σ'.bound = σ.bound ∧
      σ'.pos.z = σ.pos.z := by
  simpa [view] using h

theorem view_of_frame {σ σ' : St} (h : σ'.frame = σ.frame) : view σ' = view σ := by
  simp only [St.frame, Frame.mk.injEq] at h
  simp [view, h]

/-- `P` depends on the state through `view` only -/
def Reads (P : St → Prop) : Prop := ∀ σ σ', view σ' = view σ → P σ → P σ'

theorem reads_ready {t : Tree} {p : String} {z : Rat} : Reads (Ready t p z) := by
  intro σ σ' h hP
  obtain ⟨e1, -, e3, e4, e5, e6⟩ := view_eq h
  exact ⟨e1 ▸ hP.abs, e4 ▸ hP.loaded, e5 ▸ hP.bound, e3 ▸ hP.val, e6 ▸ hP.posz⟩

/-- instructions that leave `view` alone: no z word, no variable, no program management -/
def calm : Instr → Bool
  | .blank | .comment _ | .msg | .pso _ _ | .dwell _ => true
  | .g1 w => w.z.isNone && w.zvar.isNone
  | _ => false

theorem calm_view (t : Tree) (fuel : Nat) (σ : St) (i : Instr) (hc : calm i = true) : view (stepT t fuel σ i).1 = view σ := by
  cases i with
  | g1 w =>
    simp only [calm, Bool.and_eq_true, Option.isNone_iff_eq_none] at hc
    rw [stepT_g1]
    exact view_of_frame (g1_frame σ w hc.1 hc.2)
  | blank | comment _ | msg | pso _ _ | dwell _ => rw [stepT_flat t fuel σ _ rfl]; rfl
  | _ => cases hc

theorem emit_keeps {α : Type} (π : St → α) (h : Handler) (is : List Instr) (hk : ∀ i ∈ is, ∀ σ, π (h σ i).1 = π σ) (σ : St) :
    π (execStmtsG h (is.map .atom) σ).1 = π σ :=
  execStmtsG_keeps π _ (fun s hs σ => by
    obtain ⟨i, hi, rfl⟩ := List.mem_map.mp hs
    rw [execStmtG]
    exact hk i hi σ) σ

theorem farcall_view {t : Tree} {f : Nat} {p : String} (σ : St)
    (hb : ∃ id body, lookupBound σ.bound (progKey p) = some id ∧ t.find id = some body ∧ progKey id = progKey p ∧ isLeafXY body = true) :
    view (stepT t f σ (.farcall p)).1 = view σ := by
  obtain ⟨id, body, hb, hfind, -, hleaf⟩ := hb
  rcases stepT_farcall t f σ p with ⟨g, id', body', -, hb', hfind', -, e⟩ | ⟨msg, e⟩ <;> rw [e]
  -- the file that runs is the one the name is bound to
  cases hb.symm.trans hb'
  cases hfind.symm.trans hfind'
  exact view_of_frame (leafXY_frame _ (stepT_g1 t g) (stepT_blank t g) body hleaf σ)

theorem load_view {t : Tree} {f : Nat} {p path : String} (hk : progKey path = progKey p)
    (hin : ∃ id body, resolve t path = some id ∧ t.find id = some body ∧ progKey id = progKey p ∧ isLeafXY body = true)
    (σ : St) (k : Nat) :
    (stepT t (f + 1) σ (.load k path)).1.absMode = σ.absMode ∧ (stepT t (f + 1) σ (.load k path)).1.declared = σ.declared ∧
      (stepT t (f + 1) σ (.load k path)).1.vals = σ.vals ∧ (stepT t (f + 1) σ (.load k path)).1.pos = σ.pos ∧
      ((stepT t (f + 1) σ (.load k path)).1.loaded.contains (progKey p) = true ∧
        ∃ id body, lookupBound (stepT t (f + 1) σ (.load k path)).1.bound (progKey p) = some id ∧ t.find id = some body ∧
          progKey id = progKey p ∧ isLeafXY body = true) := by
  obtain ⟨id, body, hres, hfind, hkey, hleaf⟩ := hin
  dsimp only [stepT, stepFlat, step]
  rw [hres, hk]
  refine ⟨rfl, rfl, rfl, rfl, ?_, id, body, by simp [lookupBound], hfind, hkey, hleaf⟩
  dsimp only
  split
  · assumption
  · simp

theorem remove_view (t : Tree) (f : Nat) (σ : St) (n : String) : ∃ L, (stepT t f σ (.remove n)).1 = { σ with loaded := L } := by
  rw [stepT_flat t f σ _ rfl]
  dsimp only [stepFlat, step]
  split
  · exact ⟨_, rfl⟩
  · exact ⟨σ.loaded, rfl⟩

theorem wall_iteration (t : Tree) (f : Nat) (p : String) (dz z : Rat) (σ : St) (h : Ready t p z σ) :
    Ready t p (z + dz) (execStmtsG (stepT t f) (wallLoopBody p dz) σ).1 := by
  have h1 : Ready t p z (stepT t f σ (.farcall p)).1 := reads_ready _ _ (farcall_view σ h.bound) h
  simp only [wallLoopBody, execStmtsG, execStmtG]
  generalize (stepT t f σ (.farcall p)).1 = σ1 at h1
  rw [stepT_flat t f σ1 (.incVar "zcurr" dz) rfl, stepT_g1]
  have hl : lower "ZCURR" = "zcurr" := by decide +kernel
  simp only [stepFlat, step, h1.val, zTarget, hl, lookup_setVal, axisTarget, h1.abs, if_true]
  exact ⟨rfl, h1.loaded, h1.bound, lookup_setVal _ _ _, rfl⟩

theorem execRepG_inv (h : Handler) (body : List Stmt) (R : Nat → St → Prop)
    (hb : ∀ k σ, R k σ → R (k + 1) (execStmtsG h body σ).1) (n : Nat) (σ : St) (h0 : R 0 σ) : R n (execRepG h n body σ).1 := by
  induction n generalizing σ R with
  | zero => simpa [execRepG] using h0
  | succ n ih =>
    rw [execRepG]
    exact ih (fun k => R (k + 1)) (fun k σ => hb (k + 1) σ) _ (hb 0 σ h0)

theorem execRepG_ready {t : Tree} {h : Handler} {p : String} {dz : Rat} {body : List Stmt}
    (hb : ∀ z σ, Ready t p z σ → Ready t p (z + dz) (execStmtsG h body σ).1) (n : Nat) (z : Rat) (σ : St) (h0 : Ready t p z σ) :
    Ready t p (z + n * dz) (execRepG h n body σ).1 := by
  refine execRepG_inv h body (fun k σ => Ready t p (z + k * dz) σ) (fun k σ hk => ?_) n σ ?_
  · rw [Nat.cast_succ, add_mul, one_mul, ← add_assoc]
    exact hb _ σ hk
  · rwa [Nat.cast_zero, zero_mul, add_zero]

theorem execRepG_wall (t : Tree) (f : Nat) (p : String) (dz : Rat) (n : Nat) (z : Rat) (σ : St) (h : Ready t p z σ) :
    Ready t p (z + n * dz) (execRepG (stepT t (f + 1)) n (wallLoopBody p dz) σ).1 :=
  execRepG_ready (wall_iteration t (f + 1) p dz) n z σ h

theorem wall_iterationD (t : Tree) (f : Nat) (q : Rat) (p : String) (dz z : Rat) (σ : St) (h : Ready t p z σ) :
    Ready t p (z + dz) (execStmtsG (stepT t f) (wallLoopBodyD q p dz) σ).1 := by
  have h1 := wall_iteration t f p dz z _ (reads_ready _ _ (calm_view t f σ (.dwell q) rfl) h)
  simpa [wallLoopBodyD, execStmtsG, execStmtG] using h1

theorem execRepG_wallD (t : Tree) (f : Nat) (q : Rat) (p : String) (dz : Rat) (n : Nat) (z : Rat) (σ : St) (h : Ready t p z σ) :
    Ready t p (z + n * dz) (execRepG (stepT t (f + 1)) n (wallLoopBodyD q p dz) σ).1 :=
  execRepG_ready (wall_iterationD t (f + 1) q p dz) n z σ h

/-! `progKey`, `pathComps` and `resolve` pass from `String` to `List Char` and back at every step, and the kernel pays for every
passage.  Here are the same functions on the characters, and that they agree: a concrete `resolve` is then evaluated with one
conversion per string (`C06.inTree_of_chars`). -/

def progKeyL (p : List Char) : List Char :=
  let b := ((p.reverse.takeWhile fun c => c != '/' && c != '\\').reverse).map Char.toLower
  match b.reverse.dropWhile (· != '.') with
  | [] => b
  | _ :: r => if r.isEmpty then b else r.reverse

theorem progKey_eq (p : String) : progKey p = String.ofList (progKeyL p.toList) := by
  simp only [progKey, progKeyL, lower, baseName, String.toList_ofList]
  split
  · rename_i h; rw [h]
  · rename_i h; rw [h]; dsimp only; split <;> rfl

def pathCompsL (p : List Char) : List (List Char) :=
  let cs := (p.map Char.toLower).splitBy (fun a b => (a == '/' || a == '\\') == (b == '/' || b == '\\'))
  let cs := cs.filter fun g => match g with | c :: _ => !(c == '/' || c == '\\') | [] => false
  match cs.reverse with
  | [] => []
  | l :: r => (progKeyL l :: r).reverse

theorem pathComps_eq (p : String) : pathComps p = (pathCompsL p.toList).map String.ofList := by
  simp only [pathComps, pathCompsL, lower, String.toList_ofList, ← List.map_reverse]
  generalize (List.filter _ _).reverse = L
  cases L with
  | nil => rfl
  | cons l r => simp [progKey_eq, String.toList_ofList]

def isSuffixOfL (a b : List (List Char)) : Bool := a.length ≤ b.length && b.drop (b.length - a.length) == a

theorem isSuffixOf_map (a b : List (List Char)) : isSuffixOf (a.map String.ofList) (b.map String.ofList) = isSuffixOfL a b := by
  simp only [isSuffixOf, isSuffixOfL, List.length_map, ← List.map_drop]
  congr 1
  rw [Bool.eq_iff_iff, beq_iff_eq, beq_iff_eq]
  exact List.map_inj_right fun _ _ => String.ofList_injective

/-- `resolve` with the components of the path given -/
def resolveL (t : Tree) (pc : List (List Char)) : Option String :=
  let cands := t.filter fun f => let fc := pathCompsL f.1.toList; !fc.isEmpty && (isSuffixOfL fc pc || isSuffixOfL pc fc)
  cands.foldl (fun best f => match best with
    | none => some f.1
    | some b =>
      if (pathCompsL f.1.toList).length > (pathCompsL b.toList).length && isSuffixOfL (pathCompsL f.1.toList) pc then some f.1
      else some b) none

theorem resolve_eq (t : Tree) (p : String) : resolve t p = resolveL t (pathCompsL p.toList) := by
  simp only [resolve, resolveL, pathComps_eq, isSuffixOf_map, List.length_map, List.isEmpty_map]
  rfl

end Femto.Ctl
