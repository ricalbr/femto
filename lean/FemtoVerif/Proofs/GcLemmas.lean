/-
Equations of the compiler model (`Model/Gcode.lean`): what the small operations print (`shutter_eq`, `closeIfOpen_eq`,
`dwell_cases`, `formatArgs_ok`), the two guards in front of the program operations (`pgmGuard`, `loadedGuard`), and the algebra
of `Res.andThen`.
-/
import FemtoVerif.Model.Gcode
import FemtoVerif.Proofs.Structure
import Mathlib.Tactic.Ring
import Mathlib.Tactic.Linarith

namespace Femto.Gc
open Femto.Ctl

theorem dwellOf_atom (i : Instr) : dwellOf (.atom i) = instrDwell i := by
  unfold instrDwell
  split
  · rw [dwellOf]
  · rw [dwellOf]; assumption

theorem dwellOfList_emit (is : List Instr) : dwellOfList (emit is) = (is.map instrDwell).sum := by
  induction is with
  | nil => simp [emit, dwellOfList]
  | cons i is ih =>
    simp only [emit, List.map_cons, dwellOfList, List.sum_cons] at ih ⊢
    rw [dwellOf_atom, ih]

/-- the companion of `check_append` (`Proofs/Structure.lean`) for a text printed line by line -/
theorem check_emit {g : List Stmt → Bool} {f : Instr → Bool} (nil : g [] = true) (cons : ∀ i ss, g (.atom i :: ss) = (f i && g ss))
    (is : List Instr) (h : ∀ i ∈ is, f i = true) : g (emit is) = true := by
  induction is with
  | nil => exact nil
  | cons i is ih =>
    rw [emit, List.map_cons, cons, h i List.mem_cons_self, Bool.true_and]
    exact ih fun j hj => h j (List.mem_cons_of_mem i hj)

theorem cleanList_emit (is : List Instr) (h : ∀ i ∈ is, i.isDelim = false) : cleanList (emit is) = true :=
  check_emit rfl (fun _ _ => rfl) is fun i hi => by rw [Stmt.clean, h i hi]; rfl

theorem rabs_nonneg (q : Rat) : 0 ≤ rabs q := by
  unfold rabs; split <;> linarith

/-- with what the `finally` of `repeat` / `for_loop` adds, the total grows by `n` times its growth over the body -/
theorem loopIncr_total {n : Int} (hn : 0 < n) (a b : Rat) : b + loopIncr n a b - a = n.toNat * (b - a) := by
  rw [loopIncr, ← Int.cast_natCast, Int.toNat_of_nonneg hn.le]
  push_cast; ring

theorem formatArgs_ok {d : Nat} {x y z f : Option Rat} {w : G1W} (h : formatArgs d x y z f = .ok w) :
    w = { x := x.map (fmt d), y := y.map (fmt d), z := z.map (fmt d), f := f.map (fmt d),
          decs := ([x, y, z, f].filter Option.isSome).map fun _ => d } ∧ ∀ fv, f = some fv → ¬ fv < 1 / pow10 d := by
  unfold formatArgs at h
  split at h
  · split at h
    · cases h
    · rename_i hf
      cases h
      exact ⟨rfl, fun fv e => by cases e; exact hf⟩
  · cases h
    exact ⟨by rw [show [x, y, z, (none : Option Rat)] = [x, y, z] ++ [none] from rfl, List.filter_append]; simp, nofun⟩

theorem shutter_eq (cfg : Cfg) (on : Bool) (cs : CS) :
    shutter cfg on cs = if cs.shutterOn = on then ([], cs) else (emit [.pso cfg.psoAxis on], { cs with shutterOn := on }) := by
  unfold shutter
  cases on <;> cases cs.shutterOn <;> simp

theorem closeIfOpen_eq_shutter (cfg : Cfg) (cs : CS) : closeIfOpen cfg cs = shutter cfg false cs := by
  unfold closeIfOpen
  split
  · rfl
  · rename_i h; rw [shutter_eq, if_pos (by simpa using h)]

theorem closeIfOpen_eq (cfg : Cfg) (cs : CS) :
    closeIfOpen cfg cs =
      if cs.shutterOn = true then (emit [.pso cfg.psoAxis false], { cs with shutterOn := false }) else ([], cs) := by
  rw [closeIfOpen_eq_shutter, shutter_eq]
  cases cs.shutterOn <;> rfl

theorem dwell_cases (t : Option Rat) (cs : CS) :
    dwell t cs = ([], cs) ∨ ∃ d, dwell t cs = (emit [.dwell d], { cs with dwellTotal := cs.dwellTotal + d }) := by
  unfold dwell
  split
  · exact .inl rfl
  · split
    · exact .inl rfl
    · exact .inr ⟨_, rfl⟩

/-- the extension check of `_get_filepath`, with which every sub-program operation starts -/
theorem pgmGuard {Q : Res → Prop} {path : String} {cs : CS} {r : Res} (stop : ∀ e, Q { cs := cs, err := some e })
    (ok : isPgm path = true → Q r) : Q (if !isPgm path then { cs := cs, err := some (.value "wrong extension") } else r) := by
  split
  · exact stop _
  · rename_i h
    exact ok (by simpa using h)

/-- and after it, in `remove_program`, `farcall` and `bufferedcall`, the look-up in `_loaded_files` -/
theorem loadedGuard {Q : Res → Prop} {path : String} {cs : CS} {r : Res} (stop : ∀ e, Q { cs := cs, err := some e })
    (ok : isPgm path = true → stemOf path ∈ cs.loaded → Q r) :
    Q (if !isPgm path then { cs := cs, err := some (.value "wrong extension") }
       else if !cs.loaded.contains (stemOf path) then { cs := cs, err := some (.fileNotFound "not loaded") } else r) :=
  pgmGuard stop fun hx => by
    split
    · exact stop _
    · rename_i h
      exact ok hx (by simpa using h)

theorem andThen_of_err {a : Res} {e : Err} (f : CS → Res) (h : a.err = some e) : a.andThen f = a := by simp [Res.andThen, h]

theorem andThen_of_ok {a : Res} (f : CS → Res) (h : a.err = none) :
    a.andThen f = { out := a.out ++ (f a.cs).out, pre := (f a.cs).pre ++ a.pre, cs := (f a.cs).cs, err := (f a.cs).err } := by
  simp [Res.andThen, h]

theorem andThen_cases {Q : Res → Prop} {a : Res} {f : CS → Res} (stop : Q a)
    (both : Q { out := a.out ++ (f a.cs).out, pre := (f a.cs).pre ++ a.pre, cs := (f a.cs).cs, err := (f a.cs).err }) :
    Q (a.andThen f) := by
  unfold Res.andThen
  split
  exacts [stop, both]

theorem andThen_err_none {a : Res} {f : CS → Res} (h : (a.andThen f).err = none) : a.err = none ∧ (f a.cs).err = none := by
  cases he : a.err with
  | some e => rw [andThen_of_err f he, he] at h; cases h
  | none => rw [andThen_of_ok f he] at h; exact ⟨rfl, h⟩

theorem andThen_cs {I : CS → Prop} {a : Res} {f : CS → Res} (ha : I a.cs) (hf : ∀ c, I c → I (f c).cs) : I (a.andThen f).cs :=
  andThen_cases (Q := fun r => I r.cs) ha (hf _ ha)

theorem andThen_assoc (a : Res) (f g : CS → Res) : (a.andThen f).andThen g = a.andThen fun cs => (f cs).andThen g := by
  cases ha : a.err with
  | some e => simp [Res.andThen, ha]
  | none => cases hf : (f a.cs).err <;> simp [Res.andThen, ha, hf]

end Femto.Gc
