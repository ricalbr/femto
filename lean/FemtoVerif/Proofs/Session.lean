/-
Everything the compiler emits is a clean structured program (atoms are never loop delimiters) and the dwell it emits equals
the increase of the reported total.  Shared by C03 (balance), C12 (dwell accounting) and C06 (the trench programs).
-/
import FemtoVerif.Proofs.Ops

namespace Femto.Gc
open Femto.Ctl

/-- nothing is asked of `r.err`: the accounting holds also when the sequence stopped with an error -/
def ResOK (cs : CS) (r : Res) : Prop :=
  cleanList r.out = true ∧ cleanList r.pre = true ∧ dwellOfList r.out = r.cs.dwellTotal - cs.dwellTotal ∧
    dwellOfList r.pre = 0

theorem op_clean (i : Instr) (h : opInstr i = true) : i.isDelim = false := by
  unfold Instr.isDelim
  split <;> first | rfl | cases h

theorem rot_clean (cfg : Cfg) (i : Instr) (h : rotInstr cfg i = true) : i.isDelim = false := by
  unfold Instr.isDelim
  split <;> first | rfl | cases h

theorem Printed.ok {p : Instr → Bool} {cs cs' : CS} {ss : List Stmt} (e : Printed p cs cs' ss)
    (hp : ∀ i, p i = true → i.isDelim = false) : cleanList ss = true ∧ dwellOfList ss = cs'.dwellTotal - cs.dwellTotal :=
  ⟨e.check cleanList_emit hp, by rw [e.dwell]; ring⟩

theorem Lines.ok {p : Instr → Bool} {cs : CS} {r : Res} (h : Lines p cs r) (hp : ∀ i, p i = true → i.isDelim = false) :
    ResOK cs r :=
  ⟨(h.toPrinted.ok hp).1, by simp [h.pre, cleanList], (h.toPrinted.ok hp).2, by simp [h.pre, dwellOfList]⟩

theorem ResOK.ofLeaf {cs : CS} {r : Res} (h : Leaf cs r) : ResOK cs r := h.ok op_clean

theorem ResOK.stop (cs : CS) (e : Option Err) : ResOK cs { cs := cs, err := e } := ResOK.ofLeaf (Lines.stop _ cs e)

theorem andThen_ok {cs : CS} {a : Res} {f : CS → Res} (ha : ResOK cs a) (hf : ∀ c, ResOK c (f c)) :
    ResOK cs (a.andThen f) := by
  obtain ⟨b1, b2, b3, b4⟩ := hf a.cs
  refine andThen_cases ha ⟨by simp [cleanList_append, ha.1, b1], by simp [cleanList_append, ha.2.1, b2], ?_, ?_⟩
  · simp only [dwellOfList_append, ha.2.2.1, b3]; ring
  · simp only [dwellOfList_append, ha.2.2.2, b4]; ring

/-- one statement for `rep` and `forr`: a loop `s` around the body that is clean if the body is and runs it `n` times -/
theorem ResOK.loop {n : Int} {cs : CS} {r : Res} {s : Stmt} (hn : 0 < n) (h : ResOK cs r) (hc : s.clean = cleanList r.out)
    (hd : dwellOf s = n.toNat * dwellOfList r.out) :
    ResOK cs { out := [s, Stmt.atom .blank], pre := r.pre,
               cs := { r.cs with dwellTotal := r.cs.dwellTotal + loopIncr n cs.dwellTotal r.cs.dwellTotal }, err := r.err } := by
  refine ⟨by simp [cleanList, hc, h.1, Stmt.clean, Instr.isDelim], h.2.1, ?_, h.2.2.2⟩
  simp only [dwellOfList, hd, h.2.2.1, loopIncr_total hn, dwellOf, add_zero]

theorem ResOK.compositional (cfg : Cfg) : Compositional cfg ResOK where
  leaf := ResOK.ofLeaf
  andThen := andThen_ok
  dvar _ _ := ⟨rfl, rfl, by simp [dwellOfList], by simp [dwellOfList_emit, instrDwell]⟩
  rep hn h := h.loop hn (by rw [Stmt.clean]) (by rw [dwellOf])
  forr {_ n _ _} hn _ h := h.loop hn (by rw [Stmt.clean]) (by rw [dwellOf, show n - 1 - 0 + 1 = n by ring])
  rot {a cs r} h := by
    obtain ⟨a1, a2⟩ := (enterRot_emits cfg a cs).toPrinted.ok (rot_clean cfg)
    obtain ⟨x1, x2⟩ := (exitRot_emits cfg r.cs).toPrinted.ok (rot_clean cfg)
    refine ⟨by simp [cleanList_append, a1, h.1, x1], h.2.1, ?_, h.2.2.2⟩
    simp only [dwellOfList_append, a2, h.2.2.1, x2]; ring
  attempt h := h

theorem execOp_ok (cfg : Cfg) (op : Op) (cs : CS) : ResOK cs (execOp cfg op cs) := (ResOK.compositional cfg).execOp op cs

theorem execOps_ok (cfg : Cfg) (ops : List Op) (cs : CS) : ResOK cs (execOps cfg ops cs) := (ResOK.compositional cfg).execOps ops cs

theorem sessionWith_ok (cfg : Cfg) (body : CS → Res) (hbody : ∀ cs, ResOK cs (body cs)) (hh : headerClean cfg.header = true) :
    cleanList (TP.sessionWith cfg body).1 = true ∧
      dwellOfList (TP.sessionWith cfg body).1 = (TP.sessionWith cfg body).2.dwellTotal := by
  obtain ⟨R, ⟨r1, r2, r3, r4⟩, e⟩ := (ResOK.compositional cfg).sessionWith body hbody
  have hhd : ∀ i ∈ cfg.header, i.isDelim = false ∧ instrDwell i = 0 := fun i hi => by
    have := List.all_eq_true.mp hh i hi
    simp only [Bool.and_eq_true, Bool.not_eq_true', decide_eq_true_eq] at this
    exact this.1
  rw [e]
  refine ⟨by simp [cleanList_append, r1, r2, cleanList_emit _ fun i hi => (hhd i hi).1], ?_⟩
  simp only [dwellOfList_append, r3, r4, dwellOfList_emit, List.sum_eq_zero (List.forall_mem_map.2 fun i hi => (hhd i hi).2)]
  ring

theorem session_ok (cfg : Cfg) (ops : List Op) (hh : headerClean cfg.header = true) :
    cleanList (session cfg ops).1 = true ∧ dwellOfList (session cfg ops).1 = (session cfg ops).2.dwellTotal :=
  sessionWith_ok cfg _ (execOps_ok cfg ops) hh

end Femto.Gc
