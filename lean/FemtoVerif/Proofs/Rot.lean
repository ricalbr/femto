/-
The G84 state after a compiled session, in program order (C03 `session_rotation_off`).  `G84` lines are emitted only by
`enterRot` / `exitRot`; `exitRot` always ends with `G84 X Y` (rotation off) and every `axisRot` block — and the session-wide
rotation — is closed by it, also when the body stopped with an error.
-/
import FemtoVerif.Proofs.Ops
import FemtoVerif.Spec.WF

namespace Femto.Gc
open Femto.Ctl

def noG84Instr : Instr → Bool
  | .g84 _ => false
  | _ => true

mutual
  def noG84Stmt : Stmt → Bool
    | .atom i => noG84Instr i
    | .rep _ body => noG84List body
    | .forr _ _ _ body => noG84List body
  def noG84List : List Stmt → Bool
    | [] => true
    | s :: ss => noG84Stmt s && noG84List ss
end

theorem noG84_append (a b : List Stmt) : noG84List (a ++ b) = (noG84List a && noG84List b) :=
  check_append rfl (fun _ _ => rfl) a b

theorem noG84_emit (is : List Instr) (h : ∀ i ∈ is, noG84Instr i = true) : noG84List (emit is) = true :=
  check_emit rfl (fun _ _ => rfl) is h

theorem op_noG84 (i : Instr) (h : opInstr i = true) : noG84Instr i = true := by
  unfold noG84Instr
  split
  · cases h
  · rfl

def rotEnd (ss : List Stmt) (r : Bool) : Bool := scanRot (flattenStmts ss) r

theorem scanRot_append (a b : List Instr) (r : Bool) : scanRot (a ++ b) r = scanRot b (scanRot a r) := by
  -- by the recursion of `scanRot`: one case per equation, the last with the hypotheses that `i` is no `G84`
  fun_induction scanRot a r with
  | case1 => rfl
  | case2 is r ih => exact ih
  | case3 is r q ih => exact ih
  | case4 r i is h1 h2 ih => rw [List.cons_append, scanRot, ih] <;> assumption

theorem rotEnd_append (a b : List Stmt) (r : Bool) : rotEnd (a ++ b) r = rotEnd b (rotEnd a r) := by
  simp [rotEnd, flattenStmts_append, scanRot_append]

theorem scanRot_skip (i : Instr) (h : noG84Instr i = true) (is : List Instr) (r : Bool) : scanRot (i :: is) r = scanRot is r := by
  -- the last equation of `scanRot`; its side conditions (`i` is none of the instructions named before) hold by `h`
  rw [scanRot] <;> (intros; subst_vars; cases h)

mutual
  theorem rotEnd_noG84Stmt (s : Stmt) (h : noG84Stmt s = true) (r : Bool) : scanRot (flattenStmt s) r = r := by
    match s with
    | .atom i =>
      simp only [flattenStmt]
      rw [noG84Stmt] at h
      rw [scanRot_skip i h]; rfl
    | .rep _ body | .forr _ _ _ body =>
      rw [noG84Stmt] at h
      simp only [flattenStmt]
      rw [scanRot_skip _ (by rfl), scanRot_append, rotEnd_noG84List body h r]
      rfl
  theorem rotEnd_noG84List (ss : List Stmt) (h : noG84List ss = true) (r : Bool) : scanRot (flattenStmts ss) r = r := by
    match ss with
    | [] => rfl
    | s :: rest =>
      rw [noG84List, Bool.and_eq_true] at h
      simp only [flattenStmts]
      rw [scanRot_append, rotEnd_noG84Stmt s h.1 r, rotEnd_noG84List rest h.2 r]
end

/-- in program order the output either leaves the G84 state as it was or switches it off -/
def RotOK (out : List Stmt) : Prop := ∀ r, rotEnd out r = false ∨ rotEnd out r = r

theorem RotOK.ofNoG84 {out : List Stmt} (h : noG84List out = true) : RotOK out := fun r => Or.inr (rotEnd_noG84List out h r)

theorem RotOK.append {a b : List Stmt} (ha : RotOK a) (hb : RotOK b) : RotOK (a ++ b) := by
  intro r
  rw [rotEnd_append]
  -- `b` switches the rotation off, or leaves what `a` left
  rcases hb (rotEnd a r) with h | h
  · exact Or.inl h
  · rw [h]; exact ha r

/-- one statement for `rep` and `forr`: `hs` is `rfl` for both -/
theorem rotEnd_loop {s : Stmt} {hd tl : Instr} {body : List Stmt} (hs : flattenStmt s = hd :: (flattenStmts body ++ [tl]))
    (h1 : noG84Instr hd = true) (h2 : noG84Instr tl = true) (r : Bool) : rotEnd [s, .atom .blank] r = rotEnd body r := by
  simp only [rotEnd, flattenStmts, hs, flattenStmt, List.append_nil, List.cons_append]
  rw [scanRot_skip _ h1, scanRot_append, scanRot_append, scanRot_skip _ h2]
  rfl

theorem exitRot_off (cfg : Cfg) (cs : CS) (r : Bool) : rotEnd (exitRot cfg cs).1 r = false := by
  unfold exitRot
  simp only [seq]
  rw [rotEnd_append, rotEnd_append]
  have h1 : rotEnd (emit [Instr.g1 (originW cfg), Instr.g84 none]) (rotEnd (comment true cs).1 r) = false := by
    simp [rotEnd, emit, flattenStmts, flattenStmt, scanRot]
  rw [h1]
  exact rotEnd_noG84List _ ((dwell_emits (p := noG84Instr) (fun _ => rfl) _ _).check noG84_emit fun _ h => h) false

theorem RotOK.exit (cfg : Cfg) (cs : CS) : RotOK (exitRot cfg cs).1 := fun r => Or.inl (exitRot_off cfg cs r)

def ResRot (r : Res) : Prop := RotOK r.out ∧ noG84List r.pre = true

theorem ResRot.compositional (cfg : Cfg) : Compositional cfg fun _ r => ResRot r where
  leaf h := ⟨RotOK.ofNoG84 (h.check noG84_emit op_noG84), by simp [h.pre, noG84List]⟩
  andThen ha hf := andThen_cases ha ⟨ha.1.append (hf _).1, by simp [noG84_append, ha.2, (hf _).2]⟩
  dvar _ _ := ⟨RotOK.ofNoG84 rfl, rfl⟩
  rep _ h := ⟨fun r => by rw [rotEnd_loop rfl rfl rfl]; exact h.1 r, h.2⟩
  forr _ _ h := ⟨fun r => by rw [rotEnd_loop rfl rfl rfl]; exact h.1 r, h.2⟩
  rot h := ⟨fun r => Or.inl (by rw [rotEnd_append]; exact exitRot_off cfg _ _), h.2⟩
  attempt h := h

theorem execOp_rot (cfg : Cfg) (op : Op) (cs : CS) : ResRot (execOp cfg op cs) := (ResRot.compositional cfg).execOp op cs

end Femto.Gc
