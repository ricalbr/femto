/-
What one instruction (`step`) does to the shutter, the position and the dwell counter; shared by the single-file lemmas and the
tree controller (C06).
-/
import FemtoVerif.Spec.Controller

namespace Femto.Ctl

theorem axisTarget_none (a : Bool) (c : Option Rat) : axisTarget a c none = c := by simp [axisTarget]

/-- Motion, the shutter and the dwell counter are each the business of one instruction: every instruction other than `G1`,
`PSOCONTROL` and `DWELL` makes no move and leaves shutter and counter alone. -/
theorem step_other (σ : St) (i : Instr) :
    (∃ w, i = .g1 w) ∨ (∃ a on, i = .pso a on) ∨ (∃ t, i = .dwell t) ∨
      movesOf (step σ i).2 = [] ∧ (step σ i).1.shutter = σ.shutter ∧ (step σ i).1.dwell = σ.dwell ∧ instrDwell i = 0 := by
  cases i with
  | g1 w => exact .inl ⟨w, rfl⟩
  | pso a on => exact .inr (.inl ⟨a, on, rfl⟩)
  | dwell t => exact .inr (.inr (.inl ⟨t, rfl⟩))
  | setVar | incVar | remove | farcall | buffered =>
    -- carried out, or refused with an error event
    refine .inr (.inr (.inr ?_))
    dsimp only [step]
    split <;> exact ⟨rfl, rfl, rfl, rfl⟩
  | g84 a => cases a <;> exact .inr (.inr (.inr ⟨rfl, rfl, rfl, rfl⟩))
  | _ => exact .inr (.inr (.inr ⟨rfl, rfl, rfl, rfl⟩))

theorem step_shutter (σ : St) (i : Instr) (h : ∀ a on, i ≠ .pso a on) : (step σ i).1.shutter = σ.shutter := by
  rcases step_other σ i with ⟨w, rfl⟩ | ⟨a, on, rfl⟩ | ⟨t, rfl⟩ | ⟨-, h', -⟩
  · rfl
  · exact absurd rfl (h a on)
  · rfl
  · exact h'

theorem step_dwell (σ : St) (i : Instr) : (step σ i).1.dwell = σ.dwell + instrDwell i := by
  rcases step_other σ i with ⟨w, rfl⟩ | ⟨a, on, rfl⟩ | ⟨t, rfl⟩ | ⟨-, -, h, h0⟩
  · exact (Rat.add_zero _).symm
  · exact (Rat.add_zero _).symm
  · rfl
  · rw [h, h0, Rat.add_zero]

theorem moveEvents_spec (σ : St) (dst : Pos) (f : Option Rat) (g : Bool) :
    ∀ e ∈ moveEvents σ dst f g, ∀ m, e = .move m → m.shutter = σ.shutter ∧ m.src = σ.pos ∧ m.dst = dst := by
  intro e he m hm
  unfold moveEvents at he
  split at he
  · simp at he
  · simp only [List.mem_singleton] at he
    subst he
    simp only [Ev.move.injEq] at hm
    subst hm
    simp

theorem zTarget_nonmove (σ : St) (w : G1W) : ∀ e ∈ (zTarget σ w).2, ∀ m, e ≠ .move m := by
  unfold zTarget
  split
  · split <;> simp
  · simp

theorem uEvents_nonmove (σ : St) (w : G1W) : ∀ e ∈ uEvents σ w, ∀ m, e ≠ .move m := by
  unfold uEvents; split <;> simp

theorem mem_movesOf {m : Move} {evs : List Ev} : m ∈ movesOf evs ↔ Ev.move m ∈ evs := by
  simp only [movesOf, List.mem_filterMap]
  constructor
  · rintro ⟨e, he, h⟩
    cases e <;> simp at h
    exact h ▸ he
  · exact fun h => ⟨_, h, rfl⟩

theorem step_move {σ : St} {i : Instr} {m : Move} (hm : Ev.move m ∈ (step σ i).2) :
    m.shutter = σ.shutter ∧ m.src = σ.pos ∧ ∃ w, i = .g1 w ∧ m.dst.x = axisTarget σ.absMode σ.pos.x w.x ∧
      m.dst.y = axisTarget σ.absMode σ.pos.y w.y := by
  rcases step_other σ i with ⟨w, rfl⟩ | ⟨a, on, rfl⟩ | ⟨t, rfl⟩ | ⟨h, -⟩
  · simp only [step, List.mem_append] at hm
    rcases hm with (hm | hm) | hm
    · exact absurd rfl (zTarget_nonmove σ w _ hm m)
    · exact absurd rfl (uEvents_nonmove σ w _ hm m)
    · obtain ⟨h1, h2, h3⟩ := moveEvents_spec σ _ _ _ _ hm m rfl
      exact ⟨h1, h2, w, rfl, by rw [h3], by rw [h3]⟩
  · cases List.mem_singleton.mp hm
  · cases List.mem_singleton.mp hm
  · rw [← mem_movesOf, h] at hm
    cases hm

end Femto.Ctl
