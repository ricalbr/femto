/-
`np.linspace(a, b, n)` as the curve builders use it (`Wg.linspaceK`; `Smp.linspace` is the same function at `ℚ`, by `rfl`).
-/
import FemtoVerif.Model.Waveguide
import Mathlib.Algebra.Field.Basic
import Mathlib.Algebra.CharZero.Defs

namespace Femto.Wg
variable {K : Type} [Field K]

theorem linspaceK_length (a b : K) (n : ℕ) : (linspaceK a b n).length = n := by simp [linspaceK]

theorem linspaceK_get (a b : K) {n i : ℕ} (h : i < n) :
    (linspaceK a b n)[i]? = some (a + (i : K) * ((b - a) / ((n : K) - 1))) := by
  simp [linspaceK, h]

theorem linspaceK_head (a b : K) {n : ℕ} (h : 1 ≤ n) : (linspaceK a b n)[0]? = some a := by
  rw [linspaceK_get a b h, Nat.cast_zero, zero_mul, add_zero]

theorem linspaceK_last [CharZero K] (a b : K) {n : ℕ} (h : 2 ≤ n) : (linspaceK a b n)[n - 1]? = some b := by
  have hne : (n : K) - 1 ≠ 0 := by
    rw [← Nat.cast_one, ← Nat.cast_sub (by omega), Nat.cast_ne_zero]; omega
  rw [linspaceK_get a b (by omega), Nat.cast_sub (by omega), Nat.cast_one, mul_div_cancel₀ _ hne, add_sub_cancel]

variable {β : Type}

theorem map_linspaceK_head (g : K → β) (a b : K) {n : ℕ} (h : 1 ≤ n) : ((linspaceK a b n).map g)[0]? = some (g a) := by
  rw [List.getElem?_map, linspaceK_head a b h, Option.map_some]

theorem map_linspaceK_last [CharZero K] (g : K → β) (a b : K) {n : ℕ} (h : 2 ≤ n) :
    ((linspaceK a b n).map g)[n - 1]? = some (g b) := by
  rw [List.getElem?_map, linspaceK_last a b h, Option.map_some]

theorem mem_linspaceK_self {a t : K} {n : ℕ} (h : t ∈ linspaceK a a n) : t = a := by
  simp only [linspaceK, List.mem_map] at h
  obtain ⟨i, -, rfl⟩ := h
  rw [sub_self, zero_div, mul_zero, add_zero]

end Femto.Wg
