/-
Calls are preceded by loads (C03 `session_calls_loaded`): `scanLoaded` of `Spec/WF.lean` succeeds on the text of a session.  The
operations carry a relation (`LoadedRel`) between the controller's program-order loaded set (keys `progKey`: lower-cased base name
without the last extension) and the compiler's list (`stemOf`: case-sensitive stem of the POSIX file name); it survives loads and
removes only if both tell the names of the session apart alike (`KeysAgree`; the counter-example without it is in `Props/C03.lean`).
-/
import FemtoVerif.Proofs.Ops
import FemtoVerif.Spec.WF
import Mathlib.Data.List.TakeWhile

namespace Femto.Gc
open Femto.Ctl

def noLdInstr : Instr → Bool
  | .load _ _ => false
  | .remove _ => false
  | .farcall _ => false
  | .buffered _ _ => false
  | _ => true

mutual
  def noLdStmt : Stmt → Bool
    | .atom i => noLdInstr i
    | .rep _ body => noLdList body
    | .forr _ _ _ body => noLdList body
  def noLdList : List Stmt → Bool
    | [] => true
    | s :: ss => noLdStmt s && noLdList ss
end

theorem noLd_append (a b : List Stmt) : noLdList (a ++ b) = (noLdList a && noLdList b) :=
  check_append rfl (fun _ _ => rfl) a b

theorem noLd_emit (is : List Instr) (h : ∀ i ∈ is, noLdInstr i = true) : noLdList (emit is) = true :=
  check_emit rfl (fun _ _ => rfl) is h

theorem rot_noLd (cfg : Cfg) (i : Instr) (h : rotInstr cfg i = true) : noLdInstr i = true := by
  unfold noLdInstr
  split <;> first | rfl | cases h

theorem plain_noLd (i : Instr) (h : plainInstr i = true) : noLdInstr i = true := by
  unfold noLdInstr
  split <;> first | rfl | cases h

def ldEnd (ss : List Stmt) (L : List String) : Option (List String) := scanLoaded (flattenStmts ss) L

theorem scanLoaded_append (a b : List Instr) (L : List String) :
    scanLoaded (a ++ b) L = (scanLoaded a L).bind (scanLoaded b) := by
  induction a generalizing L with
  | nil => simp [scanLoaded]
  | cons i is ih =>
    cases i with
    | remove _ | farcall _ | buffered _ _ =>
      simp only [List.cons_append, scanLoaded]
      split
      exacts [ih _, rfl]
    | _ => exact ih _

theorem ldEnd_append (a b : List Stmt) (L : List String) : ldEnd (a ++ b) L = (ldEnd a L).bind (ldEnd b) := by
  unfold ldEnd
  rw [flattenStmts_append, scanLoaded_append]

theorem scanLoaded_skip (i : Instr) (h : noLdInstr i = true) (is : List Instr) (L : List String) :
    scanLoaded (i :: is) L = scanLoaded is L := by
  -- the last equation of `scanLoaded`; its side conditions (`i` is none of the instructions named before) hold by `h`
  rw [scanLoaded] <;> (intros; subst_vars; cases h)

mutual
  theorem scan_noLdStmt (s : Stmt) (h : noLdStmt s = true) (L : List String) : scanLoaded (flattenStmt s) L = some L := by
    match s with
    | .atom i =>
      simp only [flattenStmt]
      rw [noLdStmt] at h
      rw [scanLoaded_skip i h]; rfl
    | .rep _ body | .forr _ _ _ body =>
      rw [noLdStmt] at h
      simp only [flattenStmt]
      rw [scanLoaded_skip _ (by rfl), scanLoaded_append, scan_noLdList body h L]
      rfl
  theorem scan_noLdList (ss : List Stmt) (h : noLdList ss = true) (L : List String) : scanLoaded (flattenStmts ss) L = some L := by
    match ss with
    | [] => rfl
    | s :: rest =>
      rw [noLdList, Bool.and_eq_true] at h
      simp only [flattenStmts]
      rw [scanLoaded_append, scan_noLdStmt s h.1 L]
      simpa using scan_noLdList rest h.2 L
end

theorem ldEnd_noLd (ss : List Stmt) (h : noLdList ss = true) (L : List String) : ldEnd ss L = some L := scan_noLdList ss h L

/-- one statement for `rep` and `forr`: `hs` is `rfl` for both -/
theorem ldEnd_loop {s : Stmt} {hd tl : Instr} {body : List Stmt} (hs : flattenStmt s = hd :: (flattenStmts body ++ [tl]))
    (h1 : noLdInstr hd = true) (h2 : noLdInstr tl = true) (L : List String) : ldEnd [s, .atom .blank] L = ldEnd body L := by
  simp only [ldEnd, flattenStmts, hs, flattenStmt, List.append_nil, List.cons_append]
  rw [scanLoaded_skip _ h1, scanLoaded_append, scanLoaded_append]
  cases scanLoaded (flattenStmts body) L
  · rfl
  · simp [scanLoaded_skip _ h2, scanLoaded]

theorem posixName_idem (p : String) : posixName (posixName p) = posixName p := by
  simp [posixName, List.takeWhile_idem]

theorem stemOf_posixName (p : String) : stemOf (posixName p) = stemOf p := by
  simp only [stemOf, posixName_idem]

theorem baseName_posixName (p : String) : baseName (posixName p) = baseName p := by
  simp only [baseName, posixName, String.toList_ofList, List.reverse_reverse, List.takeWhile_takeWhile]
  congr 3
  funext c
  by_cases h : c = '/' <;> by_cases h' : c = '\\' <;> simp [h, h']

theorem progKey_posixName (p : String) : progKey (posixName p) = progKey p := by
  simp only [progKey, baseName_posixName]

theorem isPgm_posixName (p : String) : isPgm (posixName p) = isPgm p := by
  simp only [isPgm, posixName_idem]

def KeysAgree (U : List String) : Prop := ∀ p ∈ U, ∀ q ∈ U, (stemOf p = stemOf q ↔ progKey p = progKey q)

instance (U : List String) : Decidable (KeysAgree U) := by unfold KeysAgree; infer_instance

/-- program-order loaded set `L` of the controller vs. the compiler's list `S` -/
def LoadedRel (U : List String) (L S : List String) : Prop := S.Nodup ∧ ∀ q ∈ U, (stemOf q ∈ S ↔ progKey q ∈ L)

mutual
  def pathsOp : Op → List String
    | .load p _ => [p]
    | .farcall p => [p]
    | .buffered p _ => [p]
    | .remove p _ => [p]
    | .farcallList items => items.map (·.1)
    | .rep _ body => pathsOps body
    | .forr _ _ body => pathsOps body
    | .axisRot _ body => pathsOps body
    | .attempt body => pathsOps body
    | _ => []
  def pathsOps : List Op → List String
    | [] => []
    | op :: ops => pathsOp op ++ pathsOps ops
end

/-- `p` names a program of `U` for the compiler and for the controller alike: `farcall_list` loads `q`, then calls and removes
`posixName q` -/
def NamedIn (U : List String) (p : String) : Prop := ∃ q ∈ U, stemOf q = stemOf p ∧ progKey q = progKey p

theorem NamedIn.of_mem {U : List String} {p : String} (h : p ∈ U) : NamedIn U p := ⟨p, h, rfl, rfl⟩

theorem NamedIn.posixName {U : List String} {p : String} (h : NamedIn U p) : NamedIn U (posixName p) := by
  obtain ⟨q, hq, e1, e2⟩ := h
  exact ⟨q, hq, e1.trans (stemOf_posixName p).symm, e2.trans (progKey_posixName p).symm⟩

theorem LoadedRel.mem {U L S : List String} {p : String} (h : LoadedRel U L S) (hp : NamedIn U p) : stemOf p ∈ S ↔ progKey p ∈ L := by
  obtain ⟨q, hq, e1, e2⟩ := hp
  rw [← e1, ← e2]
  exact h.2 q hq

theorem LoadedRel.insert {U L S : List String} {p : String} (h : LoadedRel U L S) (hU : KeysAgree U) (hp : NamedIn U p) :
    LoadedRel U (if L.contains (progKey p) then L else progKey p :: L) (if S.contains (stemOf p) then S else S ++ [stemOf p]) := by
  by_cases hc : stemOf p ∈ S
  · rwa [if_pos (by simpa using (h.mem hp).1 hc), if_pos (by simpa using hc)]
  · rw [if_neg (by simpa using fun hk => hc ((h.mem hp).2 hk)), if_neg (by simpa using hc)]
    refine ⟨List.nodup_append.2 ⟨h.1, List.nodup_singleton _, fun a ha b hb e => hc (List.mem_singleton.1 hb ▸ e ▸ ha)⟩,
      fun q hq => ?_⟩
    obtain ⟨p', hp', e1, e2⟩ := hp
    rw [List.mem_append, List.mem_singleton, List.mem_cons, h.2 q hq, ← e1, ← e2, hU q hq p' hp', or_comm]

theorem LoadedRel.erase {U L S : List String} {p : String} (h : LoadedRel U L S) (hU : KeysAgree U) (hp : NamedIn U p) :
    LoadedRel U (L.filter (· != progKey p)) (S.erase (stemOf p)) := by
  obtain ⟨p', hp', e1, e2⟩ := hp
  exact ⟨h.1.erase _, fun q hq => by
    rw [h.1.mem_erase_iff, List.mem_filter, bne_iff_ne, ne_eq, h.2 q hq, ← e1, ← e2, hU q hq p' hp', and_comm]⟩

/-- the hoisted lines load, call and remove nothing; the scan of the output succeeds from every controller set related to the
compiler's list before and ends in one related to its list after -/
def ResLd (U : List String) (cs : CS) (r : Res) : Prop :=
  noLdList r.pre = true ∧ ∀ L, LoadedRel U L cs.loaded → ∃ L', ldEnd r.out L = some L' ∧ LoadedRel U L' r.cs.loaded

variable {U : List String} {cs : CS}

theorem ResLd.ofEmits {p : Instr → Bool} {o : Out} (h : Emits p cs o) (hp : ∀ i, p i = true → noLdInstr i = true)
    (e : Option Err) : ResLd U cs { out := o.1, cs := o.2, err := e } :=
  ⟨rfl, fun L hL => ⟨L, ldEnd_noLd _ (h.check noLd_emit hp) L, by simpa [h.loaded] using hL⟩⟩

theorem ResLd.ofPlain {o : Out} (h : Emits plainInstr cs o) : ResLd U cs (Res.ofOut o) := ResLd.ofEmits h plain_noLd none

theorem ResLd.stop (U : List String) (cs : CS) (e : Option Err) : ResLd U cs { cs := cs, err := e } :=
  ResLd.ofEmits (Emits.nil plainInstr cs) plain_noLd e

theorem andThen_ld {a : Res} {f : CS → Res} (ha : ResLd U cs a) (hf : ResLd U a.cs (f a.cs)) : ResLd U cs (a.andThen f) := by
  refine andThen_cases ha ⟨by simp [noLd_append, ha.1, hf.1], fun L hL => ?_⟩
  obtain ⟨L1, e1, r1⟩ := ha.2 L hL
  obtain ⟨L2, e2, r2⟩ := hf.2 L1 r1
  exact ⟨L2, by simp [ldEnd_append, e1, e2], r2⟩

theorem ldEnd_emit (is : List Instr) (L : List String) : ldEnd (emit is) L = scanLoaded is L := by
  simp [ldEnd, flattenStmts_emit]

theorem loadOp_ld (p : String) (t : Nat) (cs : CS) (hp : NamedIn U p) (hU : KeysAgree U) : ResLd U cs (loadOp p t cs) :=
  pgmGuard (fun _ => ResLd.stop U cs _) fun _ => ⟨rfl, fun L hL => ⟨_, by simp [ldEnd_emit, scanLoaded], hL.insert hU hp⟩⟩

theorem removeOp_ld (p : String) (t : Nat) (cs : CS) (hp : NamedIn U p) (hU : KeysAgree U) : ResLd U cs (removeOp p t cs) :=
  loadedGuard (fun _ => ResLd.stop U cs _) fun _ hc => ⟨rfl, fun L hL =>
    ⟨_, by simp [ldEnd_emit, scanLoaded, progKey_posixName, (hL.mem hp).1 hc], hL.erase hU hp⟩⟩

/-- the shape of `farcall` and `bufferedcall` -/
theorem ResLd.call (cfg : Cfg) {p : String} (hp : NamedIn U p) (hc : stemOf p ∈ cs.loaded) (is : List Instr)
    (his : ∀ L, progKey p ∈ L → scanLoaded is L = some L) :
    ResLd U cs (Res.ofOut (seq (dwell cfg.shortPause cs) fun cs => (emit is, cs))) := by
  have hd := dwell_emits (p := plainInstr) (fun _ => rfl) cfg.shortPause cs
  refine ⟨rfl, fun L hL => ⟨L, ?_, by simpa [Res.ofOut, seq, hd.loaded] using hL⟩⟩
  simp only [Res.ofOut, seq, ldEnd_append, ldEnd_noLd _ (hd.check noLd_emit plain_noLd), Option.bind_some, ldEnd_emit]
  exact his L ((hL.mem hp).1 hc)

theorem farcallOp_ld (cfg : Cfg) (p : String) (cs : CS) (hp : NamedIn U p) : ResLd U cs (farcallOp cfg p cs) :=
  loadedGuard (fun _ => ResLd.stop U cs _) fun _ hc => ResLd.call cfg hp hc _ fun L hk => by simp [scanLoaded, hk]

theorem bufferedOp_ld (cfg : Cfg) (p : String) (t : Nat) (cs : CS) (hp : NamedIn U p) : ResLd U cs (bufferedOp cfg p t cs) :=
  loadedGuard (fun _ => ResLd.stop U cs _) fun _ hc => ResLd.call cfg hp hc _ fun L hk => by simp [scanLoaded, hk]

theorem moveRes_ld (cfg : Cfg) (x y z sp : Option Rat) (cs : CS) :
    ResLd U cs (let r := moveTo cfg x y z sp cs; ({ out := r.1.1, cs := r.1.2, err := r.2 } : Res)) :=
  ResLd.ofEmits (moveTo_plain cfg x y z sp cs) plain_noLd _

theorem farcallListOp_ld (cfg : Cfg) (items : List (String × Nat)) (cs : CS) (hU : KeysAgree U) (hp : ∀ it ∈ items, it.1 ∈ U) :
    ResLd U cs (farcallListOp cfg items cs) := by
  induction items generalizing cs with
  | nil => exact ResLd.stop U cs none
  | cons it rest ih =>
    have hpU := NamedIn.of_mem (hp it (by simp))
    exact andThen_ld (andThen_ld (andThen_ld (andThen_ld (loadOp_ld _ _ cs hpU hU) (farcallOp_ld cfg _ _ hpU.posixName))
      (ResLd.ofPlain (dwell_emits (fun _ => rfl) _ _))) (removeOp_ld _ _ _ hpU.posixName hU))
      (andThen_ld (ResLd.ofPlain ((dwell_emits (fun _ => rfl) _ _).seq fun c => Emits.lines c _ (List.all_eq_true.1 rfl) (noDwell rfl)))
        (ih _ fun it hit => hp it (by simp [hit])))

theorem mem_pathsOps_cons {op : Op} {ops : List Op} {q : String} :
    q ∈ pathsOps (op :: ops) ↔ q ∈ pathsOp op ∨ q ∈ pathsOps ops := by
  simp [pathsOps]

theorem ResLd.control (U : List String) (cfg : Cfg) : Control cfg (ResLd U) where
  stop := ResLd.stop U
  andThen ha hf := andThen_ld ha (hf _)
  rep _ h := ⟨h.1, fun L hL => by rw [ldEnd_loop rfl rfl rfl]; exact h.2 L hL⟩
  forr _ _ h := ⟨h.1, fun L hL => by rw [ldEnd_loop rfl rfl rfl]; exact h.2 L hL⟩
  rot {a cs r} h := by
    have ha := enterRot_emits cfg a cs
    have hx := exitRot_emits cfg r.cs
    refine ⟨h.1, fun L hL => ?_⟩
    obtain ⟨L', e, hr⟩ := h.2 L (by rw [ha.loaded]; exact hL)
    refine ⟨L', ?_, by rw [hx.loaded]; exact hr⟩
    rw [ldEnd_append, ldEnd_append, ldEnd_noLd _ (ha.check noLd_emit (rot_noLd cfg)), Option.bind_some, e]
    exact ldEnd_noLd _ (hx.check noLd_emit (rot_noLd cfg)) L'
  attempt h := h

theorem paths_guard (U : List String) : Guard (fun op => ∀ q ∈ pathsOp op, q ∈ U) (fun ops => ∀ q ∈ pathsOps ops, q ∈ U) where
  cons g := ⟨fun q hq => g q (mem_pathsOps_cons.2 (Or.inl hq)), fun q hq => g q (mem_pathsOps_cons.2 (Or.inr hq))⟩
  rep g := g
  forr g := g
  rot g := g
  attempt g := g

theorem execOps_ld (hU : KeysAgree U) (cfg : Cfg) (ops : List Op) (cs : CS) (hops : ∀ q ∈ pathsOps ops, q ∈ U) :
    ResLd U cs (execOps cfg ops cs) := by
  refine (ResLd.control U cfg).execOps (paths_guard U) (fun op cs hb hop => ?_) ops cs hops
  cases op with
  | write m =>
    simp only [execOp]
    cases h : write cfg m cs with
    | ok o => exact ResLd.ofPlain (write_emits h)
    | error e => exact ResLd.stop U cs _
  | moveTo x y z sp => exact moveRes_ld cfg x y z sp cs
  | goOrigin => exact andThen_ld (ResLd.ofPlain (comment_emits rfl (fun _ => rfl) true cs)) (moveRes_ld cfg _ _ _ _ _)
  | goInit => exact moveRes_ld cfg _ _ _ _ cs
  | dwell p => exact ResLd.ofPlain (dwell_emits (fun _ => rfl) p cs)
  | comment b => exact ResLd.ofPlain (comment_emits rfl (fun _ => rfl) b cs)
  | setHome x y z =>
    simp only [execOp]
    split
    · exact ResLd.stop U cs _
    · exact ResLd.ofEmits (Emits.lines cs [.g92 _ _ _] (List.forall_mem_singleton.2 rfl) (List.forall_mem_singleton.2 rfl))
        (fun _ h => h) none
  | dvar vs => exact ⟨rfl, fun L hL => ⟨L, rfl, hL⟩⟩
  | load p t => exact loadOp_ld p t cs (.of_mem (hop p (List.mem_singleton_self p))) hU
  | farcall p => exact farcallOp_ld cfg p cs (.of_mem (hop p (List.mem_singleton_self p)))
  | buffered p t => exact bufferedOp_ld cfg p t cs (.of_mem (hop p (List.mem_singleton_self p)))
  | remove p t => exact removeOp_ld p t cs (.of_mem (hop p (List.mem_singleton_self p))) hU
  | farcallList items => exact farcallListOp_ld cfg items cs hU fun it hit => hop it.1 (List.mem_map_of_mem hit)
  | raise => exact ResLd.stop U cs _
  | loadBad p => exact ResLd.stop U cs _
  | _ => cases hb

end Femto.Gc
