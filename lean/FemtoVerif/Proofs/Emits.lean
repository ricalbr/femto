/-
What the emitting helpers below `execOp` print, one lemma each.  The lemmas about `dwell`, `shutter`, `comment`, `closeIfOpen`
and `moveTo` hold for every set of lines `p` that admits what the helper prints, so each analysis (C03 / C12, the discipline
and the depth chain of C06) reads its own leaf facts off the one statement.
-/
import FemtoVerif.Proofs.Exec
import FemtoVerif.Proofs.Fmt

namespace Femto.Gc
open Femto.Ctl

/-- the lines of `write`, `move_to` and `comment` -/
def plainInstr : Instr → Bool
  | .blank | .comment _ | .dwell _ | .pso .. => true
  | .g1 w => match w.f with | some f => decide (0 < f) | none => true
  | _ => false

/-- the lines of `_enter_axis_rotation` / `_exit_axis_rotation` -/
def rotInstr (cfg : Cfg) : Instr → Bool
  | .blank | .comment _ | .dwell _ | .g84 _ => true
  | .g1 w => decide (w = originW cfg)
  | _ => false

def isPso : Instr → Bool
  | .pso .. => true
  | _ => false

/-- the text `ss` was printed while the compiler state went from `cs` to `cs'` -/
structure Printed (p : Instr → Bool) (cs cs' : CS) (ss : List Stmt) : Prop where
  flat : ss = emit (flattenStmts ss)
  all : ∀ i ∈ flattenStmts ss, p i = true
  dwell : cs'.dwellTotal = cs.dwellTotal + dwellOfList ss
  dvars : cs'.dvars = cs.dvars
  shutter : (∀ i, p i = true → isPso i = false) → cs'.shutterOn = cs.shutterOn

/-- outcome of an emitting helper: its text was `Printed`, the list of loaded programs is untouched -/
structure Emits (p : Instr → Bool) (cs : CS) (o : Out) : Prop extends Printed p cs o.2 o.1 where
  loaded : o.2.loaded = cs.loaded

variable {p q : Instr → Bool} {cs cs' cs'' : CS}

theorem Printed.mono {ss : List Stmt} (h : ∀ i, p i = true → q i = true) (e : Printed p cs cs' ss) : Printed q cs cs' ss :=
  { e with all := fun i hi => h i (e.all i hi), shutter := fun hq => e.shutter fun i hi => hq i (h i hi) }

theorem Printed.nil (p : Instr → Bool) (cs : CS) : Printed p cs cs [] :=
  ⟨rfl, by simp [flattenStmts], by simp [dwellOfList], rfl, fun _ => rfl⟩

theorem Printed.append {a b : List Stmt} (ha : Printed p cs cs' a) (hb : Printed p cs' cs'' b) : Printed p cs cs'' (a ++ b) where
  flat := by
    simp only [flattenStmts_append, emit, List.map_append]
    exact congrArg₂ _ ha.flat hb.flat
  all i hi := by
    rcases List.mem_append.mp (by simpa [flattenStmts_append] using hi) with h | h
    exacts [ha.all i h, hb.all i h]
  dwell := by simp only [dwellOfList_append, hb.dwell, ha.dwell, add_assoc]
  dvars := hb.dvars.trans ha.dvars
  shutter h := (hb.shutter h).trans (ha.shutter h)

/-- a check of texts that accepts `emit` of any lines in `q` (`cleanList`, `goodList`, `noG84List`, `vfList D`, `noLdList`) accepts
what was printed with lines in `q` -/
theorem Printed.check {q : Instr → Prop} {g : List Stmt → Bool} {ss : List Stmt}
    (hg : ∀ is, (∀ i ∈ is, q i) → g (emit is) = true) (e : Printed p cs cs' ss) (hp : ∀ i, p i = true → q i) : g ss = true := by
  rw [e.flat]; exact hg _ fun i hi => hp i (e.all i hi)

theorem Emits.nil (p : Instr → Bool) (cs : CS) : Emits p cs ([], cs) := ⟨Printed.nil p cs, rfl⟩

theorem noDwell {is : List Instr} (h : is.all (fun i => !(i matches .dwell _)) = true) : ∀ i ∈ is, instrDwell i = 0 := fun i hi => by
  have := List.all_eq_true.1 h i hi
  unfold instrDwell
  split
  · cases this
  · rfl

theorem Emits.lines (cs : CS) (is : List Instr) (hp : ∀ i ∈ is, p i = true) (hd : ∀ i ∈ is, instrDwell i = 0) :
    Emits p cs (emit is, cs) := by
  refine ⟨⟨by rw [flattenStmts_emit], by rwa [flattenStmts_emit], ?_, rfl, fun _ => rfl⟩, rfl⟩
  rw [dwellOfList_emit, List.sum_eq_zero (List.forall_mem_map.2 hd), add_zero]

theorem Emits.seq {a : Out} {f : CS → Out} (ha : Emits p cs a) (hf : ∀ c, Emits p c (f c)) : Emits p cs (seq a f) :=
  ⟨ha.toPrinted.append (hf a.2).toPrinted, (hf a.2).loaded.trans ha.loaded⟩

theorem dwell_emits (h : ∀ t, p (.dwell t) = true) (t : Option Rat) (cs : CS) : Emits p cs (dwell t cs) := by
  rcases dwell_cases t cs with e | ⟨d, e⟩ <;> rw [e]
  · exact Emits.nil _ cs
  · exact ⟨⟨rfl, by simp [flattenStmts_emit, h], by simp [dwellOfList_emit, instrDwell], rfl, fun _ => rfl⟩, rfl⟩

theorem shutter_emits (h : ∀ a on, p (.pso a on) = true) (cfg : Cfg) (on : Bool) (cs : CS) : Emits p cs (shutter cfg on cs) := by
  have hn : ¬ ∀ i, p i = true → isPso i = false := fun hn => by simpa [isPso] using hn _ (h "" true)
  rw [shutter_eq]
  split
  · exact Emits.nil _ cs
  · exact ⟨⟨rfl, by simp [flattenStmts_emit, h], by simp [dwellOfList_emit, instrDwell], rfl, fun h' => absurd h' hn⟩, rfl⟩

theorem blank_emits (cs : CS) : Emits plainInstr cs (emit [.blank], cs) :=
  Emits.lines cs _ (List.all_eq_true.1 rfl) (noDwell rfl)

theorem toggle_emits (cfg : Cfg) (on : Bool) (cs : CS) : Emits plainInstr cs (toggle cfg on cs) :=
  ((((blank_emits cs).seq (dwell_emits (fun _ => rfl) _)).seq (shutter_emits (fun _ _ => rfl) cfg on)).seq fun c =>
    (dwell_emits (fun _ => rfl) _ c).seq blank_emits)

theorem toggleStep_emits (cfg : Cfg) (s : Rat) (cs : CS) : Emits plainInstr cs (toggleStep cfg s cs).1 := by
  unfold toggleStep
  split
  · exact toggle_emits cfg false cs
  · split
    · exact toggle_emits cfg true cs
    · exact Emits.nil _ cs

/-- a feed that passed the guard of `_format_args` is printed positive -/
theorem formatArgs_plain {d : Nat} {x y z : Option Rat} {f : Rat} {w : G1W}
    (h : formatArgs d x y z (some f) = .ok w) : plainInstr (.g1 w) = true := by
  obtain ⟨rfl, hf⟩ := formatArgs_ok h
  simp [plainInstr, fmt_pos d f (hf f rfl)]

theorem writeLoop_emits (cfg : Cfg) (prev : Option G1W) (ws : List (G1W × Rat)) (cs : CS)
    (hw : ∀ x ∈ ws, plainInstr (.g1 x.1) = true) : Emits plainInstr cs (writeLoop cfg prev ws cs) := by
  induction ws generalizing prev cs with
  | nil => exact Emits.nil _ cs
  | cons hd rest ih =>
    obtain ⟨w, s⟩ := hd
    have hg : ∀ c, Emits plainInstr c (maybeG1 (toggleStep cfg s cs).2 prev w, c) := fun c => by
      unfold maybeG1
      split
      · exact Emits.lines c _ (by simpa using hw (w, s) (by simp)) (noDwell rfl)
      · exact Emits.nil _ c
    simpa [writeLoop, seq, List.append_assoc] using
      ((toggleStep_emits cfg s cs).seq hg).seq (ih (some w) · fun x hx => hw x (by simp [hx]))

theorem write_eq_ok {cfg : Cfg} {m : List Pt} {cs : CS} {o : Out} (h : write cfg m cs = .ok o) :
    ∃ ws, m.mapM (formatPt cfg) = .ok ws ∧
      o = seq (seq (writeLoop cfg none ws cs) (dwell cfg.longPause)) fun cs => (emit [.blank], cs) := by
  unfold write at h
  cases hm : m.mapM (formatPt cfg) with
  | error e => rw [hm] at h; cases h
  | ok ws => rw [hm] at h; exact ⟨ws, rfl, by injection h with h; exact h.symm⟩

theorem formatPt_ok {cfg : Cfg} {pt : Pt} {x : G1W × Rat} (h : formatPt cfg pt = .ok x) :
    x.2 = pt.s ∧ ∃ a b c : Rat, formatArgs cfg.digits (some a) (some b) (some c) (some pt.f) = .ok x.1 := by
  unfold formatPt at h
  simp only at h
  cases hf : formatArgs cfg.digits (some (transform cfg pt.x pt.y pt.z).1) (some (transform cfg pt.x pt.y pt.z).2.1)
      (some (transform cfg pt.x pt.y pt.z).2.2) (some pt.f) with
  | error e => rw [hf] at h; cases h
  | ok w => rw [hf] at h; cases h; exact ⟨rfl, _, _, _, hf⟩

theorem mapM_formatPt {cfg : Cfg} {m : List Pt} {ws : List (G1W × Rat)} {Q : G1W → Prop}
    (hQ : ∀ {a b c f : Rat} {w}, formatArgs cfg.digits (some a) (some b) (some c) (some f) = .ok w → Q w)
    (h : m.mapM (formatPt cfg) = .ok ws) : (∀ x ∈ ws, Q x.1) ∧ ws.map Prod.snd = m.map (·.s) := by
  induction m generalizing ws with
  | nil => cases h; simp
  | cons pt m ih =>
    rw [List.mapM_cons] at h
    cases hp : formatPt cfg pt with
    | error e => rw [hp] at h; cases h
    | ok a =>
      cases hm : m.mapM (formatPt cfg) with
      | error e => rw [hp, hm] at h; cases h
      | ok as =>
        rw [hp, hm] at h; cases h
        obtain ⟨h1, _, _, _, h2⟩ := formatPt_ok hp
        exact ⟨List.forall_mem_cons.mpr ⟨hQ h2, (ih hm).1⟩, by simp [h1, (ih hm).2]⟩

theorem write_emits {cfg : Cfg} {m : List Pt} {cs : CS} {o : Out} (h : write cfg m cs = .ok o) : Emits plainInstr cs o := by
  obtain ⟨ws, hm, rfl⟩ := write_eq_ok h
  exact ((writeLoop_emits cfg none ws cs (mapM_formatPt formatArgs_plain hm).1).seq (dwell_emits (fun _ => rfl) _)).seq blank_emits

theorem closeIfOpen_emits (h : ∀ a on, p (.pso a on) = true) (cfg : Cfg) (cs : CS) : Emits p cs (closeIfOpen cfg cs) :=
  closeIfOpen_eq_shutter cfg cs ▸ shutter_emits h cfg false cs

theorem moveTo_emits (hp : ∀ a on, p (.pso a on) = true) (hd : ∀ t, p (.dwell t) = true) (hb : p .blank = true) (cfg : Cfg)
    (x y z sp : Option Rat) (hw : ∀ w, formatArgs cfg.digits x y z (some (sp.getD cfg.speedPos)) = .ok w → p (.g1 w) = true)
    (cs : CS) : Emits p cs (moveTo cfg x y z sp cs).1 := by
  unfold moveTo
  cases hf : formatArgs cfg.digits x y z (some (sp.getD cfg.speedPos)) with
  | error e => exact closeIfOpen_emits hp cfg cs
  | ok w =>
    exact ((closeIfOpen_emits hp cfg cs).seq fun c => Emits.lines c [.g1 w] (by simpa using hw w hf) (noDwell rfl)).seq
      fun c => (dwell_emits hd _ c).seq fun c => Emits.lines c [.blank] (by simpa using hb) (noDwell rfl)

theorem moveTo_plain (cfg : Cfg) (x y z sp : Option Rat) (cs : CS) : Emits plainInstr cs (moveTo cfg x y z sp cs).1 :=
  moveTo_emits (fun _ _ => rfl) (fun _ => rfl) rfl cfg x y z sp (fun _ h => formatArgs_plain h) cs

theorem comment_emits (h1 : p .blank = true) (h2 : ∀ s, p (.comment s) = true) (b : Bool) (cs : CS) : Emits p cs (comment b cs) := by
  unfold comment
  split <;> exact Emits.lines cs _ (by simp [h1, h2]) (noDwell rfl)

theorem exitRot_emits (cfg : Cfg) (cs : CS) : Emits (rotInstr cfg) cs (exitRot cfg cs) :=
  ((comment_emits rfl (fun _ => rfl) true cs).seq fun c =>
    Emits.lines c [.g1 (originW cfg), .g84 none] (by simp [rotInstr]) (noDwell rfl)).seq
    (dwell_emits (fun _ => rfl) _)

theorem enterRot_emits (cfg : Cfg) (a : Option Rat) (cs : CS) : Emits (rotInstr cfg) cs (enterRot cfg a cs) := by
  unfold enterRot
  simp only
  split
  · exact exitRot_emits cfg cs
  · exact ((exitRot_emits cfg cs).seq fun c => Emits.lines c [.g84 (some _), .blank] (List.all_eq_true.1 rfl)
      (noDwell rfl)).seq (dwell_emits (fun _ => rfl) _)

end Femto.Gc
