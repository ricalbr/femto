/-
What the reference controller does with the blocks the compiler prints, as triples that compose; and with `move_to`.
-/
import FemtoVerif.Proofs.Emits
import FemtoVerif.Spec.C01

namespace Femto.Ctl

/-- position, mode and shutter are all that motion depends on, so blocks compose on these three alone (`Triple.seq`) -/
def Triple (run : St → St × List Ev) (p : Pos) (s : Bool) (ms : List Move) (p' : Pos) (s' : Bool) : Prop :=
  ∀ σ : St, σ.pos = p → σ.absMode = true → σ.shutter = s →
    movesOf (run σ).2 = ms ∧ (run σ).1.pos = p' ∧ (run σ).1.absMode = true ∧ (run σ).1.shutter = s'

variable {a b : St → St × List Ev} {p p₁ p₂ : Pos} {s s₁ s₂ : Bool} {m₁ m₂ : List Move}

theorem Triple.seq (ha : Triple a p s m₁ p₁ s₁) (hb : Triple b p₁ s₁ m₂ p₂ s₂) :
    Triple (fun σ => ((b (a σ).1).1, (a σ).2 ++ (b (a σ).1).2)) p s (m₁ ++ m₂) p₂ s₂ := by
  intro σ hp habs hs
  obtain ⟨a1, a2, a3, a4⟩ := ha σ hp habs hs
  obtain ⟨b1, b2, b3, b4⟩ := hb _ a2 a3 a4
  exact ⟨by rw [movesOf_append, a1, b1], b2, b3, b4⟩

theorem Triple.nil : Triple (execFlat []) p s [] p s := fun _ hp habs hs => ⟨rfl, hp, habs, hs⟩

theorem Triple.append {x y : List Instr} (hx : Triple (execFlat x) p s m₁ p₁ s₁) (hy : Triple (execFlat y) p₁ s₁ m₂ p₂ s₂) :
    Triple (execFlat (x ++ y)) p s (m₁ ++ m₂) p₂ s₂ := by
  intro σ; rw [execFlat_append]; exact hx.seq hy σ

end Femto.Ctl

namespace Femto.Gc
open Femto.Ctl

/-- instructions that neither move nor change mode, shutter or position -/
def quiet : Instr → Bool
  | .blank | .comment _ | .dwell _ | .setup _ | .msg => true
  | _ => false

theorem quiet_not_pso (i : Instr) (h : quiet i = true) : isPso i = false := by
  -- the two cases of `isPso`, not the 25 of `Instr`
  unfold isPso
  split
  · cases h
  · rfl

theorem step_quiet {i : Instr} (h : quiet i = true) (p : Pos) (s : Bool) : Triple (step · i) p s [] p s := by
  cases i with
  | blank | comment | dwell | setup | msg => exact fun _ hp habs hs => ⟨rfl, hp, habs, hs⟩
  | _ => cases h

theorem Triple.quiet {is : List Instr} (h : ∀ i ∈ is, quiet i = true) (p : Pos) (s : Bool) : Triple (execFlat is) p s [] p s := by
  induction is with
  | nil => exact Triple.nil
  | cons i is ih => exact (step_quiet (h i List.mem_cons_self) p s).seq (ih fun j hj => h j (List.mem_cons_of_mem _ hj))

theorem Triple.pso (ax : String) (on : Bool) (p : Pos) (s : Bool) : Triple (execFlat [.pso ax on]) p s [] p on :=
  fun _ hp habs _ => ⟨rfl, hp, habs, rfl⟩

theorem dwell_quiet (p : Option Rat) (cs : CS) :
    (∀ i ∈ flattenStmts (dwell p cs).1, quiet i = true) ∧ (dwell p cs).2.shutterOn = cs.shutterOn :=
  have h := dwell_emits (p := quiet) (fun _ => rfl) p cs
  ⟨h.all, h.shutter quiet_not_pso⟩

theorem shutter_run (cfg : Cfg) (on : Bool) (cs : CS) (p : Pos) :
    Triple (execFlat (flattenStmts (shutter cfg on cs).1)) p cs.shutterOn [] p on ∧ (shutter cfg on cs).2.shutterOn = on := by
  rw [shutter_eq]
  split
  · rename_i h
    exact ⟨h ▸ Triple.nil, h⟩
  · exact ⟨flattenStmts_emit _ ▸ Triple.pso _ on p _, rfl⟩

theorem toggle_run (cfg : Cfg) (on : Bool) (cs : CS) (p : Pos) :
    Triple (execFlat (flattenStmts (toggle cfg on cs).1)) p cs.shutterOn [] p on ∧ (toggle cfg on cs).2.shutterOn = on := by
  obtain ⟨q1, s1⟩ := dwell_quiet cfg.shortPause cs
  obtain ⟨t, b⟩ := shutter_run cfg on (dwell cfg.shortPause cs).2 p
  obtain ⟨q2, s2⟩ := dwell_quiet cfg.longPause (shutter cfg on (dwell cfg.shortPause cs).2).2
  have hb : ∀ i ∈ [Instr.blank], quiet i = true := by simp [quiet]
  rw [s1] at t
  simp only [toggle, seq, flattenStmts_append, flattenStmts_emit]
  exact ⟨(((Triple.quiet hb p _).append (Triple.quiet q1 p _)).append t).append ((Triple.quiet q2 p on).append (Triple.quiet hb p on)),
    s2.trans b⟩

theorem toggleStep_eq (cfg : Cfg) (s : Rat) (cs : CS) (hs : s = 0 ∨ s = 1) :
    toggleStep cfg s cs =
      if cs.shutterOn = decide (s = 1) then (([], cs), false) else (toggle cfg (decide (s = 1)) cs, true) := by
  rcases hs with rfl | rfl <;> cases h : cs.shutterOn <;> simp [toggleStep, h]

theorem toggleStep_run (cfg : Cfg) (s : Rat) (cs : CS) (hs : s = 0 ∨ s = 1) (p : Pos) :
    Triple (execFlat (flattenStmts (toggleStep cfg s cs).1.1)) p cs.shutterOn [] p (decide (s = 1)) ∧
      (toggleStep cfg s cs).1.2.shutterOn = decide (s = 1) := by
  rw [toggleStep_eq cfg s cs hs]
  split
  · rename_i h
    exact ⟨h ▸ Triple.nil, h⟩
  · exact toggle_run cfg _ cs p

/-- what `_format_args` prints for a path point: three coordinates and a feed, nothing else -/
def fullW (w : G1W) : Bool :=
  w.x.isSome && w.y.isSome && w.z.isSome && w.f.isSome && w.zvar.isNone && w.u.isNone && !w.g9

theorem g1_run {w : G1W} (hw : fullW w = true) (p : Pos) (s : Bool) :
    Triple (execFlat [.g1 w]) p s
      (if posOf w = p then [] else [{ src := p, dst := posOf w, feed := w.f, shutter := s, g9 := false }]) (posOf w) s := by
  intro σ hp habs hs
  subst hp hs
  obtain ⟨x, y, z, zv, u, f, g9, decs⟩ := w
  simp only [fullW, Bool.and_eq_true, Bool.not_eq_true', Option.isSome_iff_exists, Option.isNone_iff_eq_none] at hw
  obtain ⟨⟨⟨⟨⟨⟨⟨x, rfl⟩, ⟨y, rfl⟩⟩, ⟨z, rfl⟩⟩, ⟨f, rfl⟩⟩, rfl⟩, rfl⟩, rfl⟩ := hw
  simp only [execFlat, step, zTarget, uEvents, moveEvents, axisTarget, habs, if_true, List.nil_append, List.append_nil]
  refine ⟨?_, rfl, trivial, trivial⟩
  split
  · rename_i h; exact (if_pos h).symm
  · rename_i h; exact (if_neg h).symm

theorem moveTo_text (cfg : Cfg) (x y z sp : Option Rat) (cs : CS) :
    ∃ R, flattenStmts (moveTo cfg x y z sp cs).1.1 = flattenStmts (closeIfOpen cfg cs).1 ++ R ∧ (∀ i ∈ R, isPso i = false) ∧
      (moveTo cfg x y z sp cs).1.2.shutterOn = (closeIfOpen cfg cs).2.shutterOn := by
  unfold moveTo
  cases formatArgs cfg.digits x y z (some (sp.getD cfg.speedPos)) with
  | error e => exact ⟨[], (List.append_nil _).symm, fun _ h => (List.not_mem_nil h).elim, rfl⟩
  | ok w =>
    obtain ⟨q, hs⟩ := dwell_quiet cfg.longPause (closeIfOpen cfg cs).2
    simp only [seq, flattenStmts_append, flattenStmts_emit, List.append_assoc]
    refine ⟨_, rfl, fun i hi => ?_, hs⟩
    simp only [List.mem_append, List.mem_singleton] at hi
    rcases hi with rfl | hi | rfl
    · rfl
    · exact quiet_not_pso i (q i hi)
    · rfl

/-- `move_to` never moves with the shutter open, whether it was believed open or closed before; both sides end closed -/
theorem moveTo_exec (cfg : Cfg) (x y z sp : Option Rat) (cs : CS) (σ : St) (hsh : σ.shutter = cs.shutterOn) :
    (∀ m ∈ movesOf (execFlat (flattenStmts (moveTo cfg x y z sp cs).1.1) σ).2, m.shutter = false) ∧
      (execFlat (flattenStmts (moveTo cfg x y z sp cs).1.1) σ).1.shutter = false ∧
      (moveTo cfg x y z sp cs).1.2.shutterOn = false := by
  obtain ⟨R, e, hR, hb⟩ := moveTo_text cfg x y z sp cs
  have hrun : Closed (execFlat R) := execFlat_closed R fun i hi a h => by rw [h] at hi; cases hR _ hi
  rw [e, hb, closeIfOpen_eq]
  split
  · -- believed open: `PSOCONTROL OFF` comes first
    rw [flattenStmts_emit]
    exact ⟨(hrun { σ with shutter := false } rfl).1, (hrun { σ with shutter := false } rfl).2, rfl⟩
  · rename_i h
    have h : cs.shutterOn = false := by simpa using h
    exact ⟨(hrun σ (hsh.trans h)).1, (hrun σ (hsh.trans h)).2, h⟩

end Femto.Gc
