/-
The loop-structure parser of the reference controller, `structure?`, inverts `flattenStmts` on every structured program whose
atoms are not loop delimiters.
-/
import FemtoVerif.Spec.Controller
import Mathlib.Data.Rat.Defs

namespace Femto.Ctl

mutual
  def Stmt.clean : Stmt → Bool
    | .atom i => !i.isDelim
    | .rep _ body => cleanList body
    | .forr _ _ _ body => cleanList body
  def cleanList : List Stmt → Bool
    | [] => true
    | s :: ss => s.clean && cleanList ss
end

/-! The checks of a text (`cleanList`, `goodList`, `noG84List`, `vfList D`, `noLdList`) are conjunctions over its statements:
`g [] = true` and `g (s :: ss) = (f s && g ss)`, both by `rfl`.  What the two equations give is proved once (here and in
`check_emit`). -/

theorem check_append {α : Type} {g : List α → Bool} {f : α → Bool} (nil : g [] = true) (cons : ∀ s ss, g (s :: ss) = (f s && g ss))
    (a b : List α) : g (a ++ b) = (g a && g b) := by
  induction a with
  | nil => rw [List.nil_append, nil, Bool.true_and]
  | cons s ss ih => rw [List.cons_append, cons, cons, ih, Bool.and_assoc]

theorem cleanList_append (a b : List Stmt) : cleanList (a ++ b) = (cleanList a && cleanList b) :=
  check_append rfl (fun _ _ => rfl) a b

theorem structGo_atom (i : Instr) (h : i.isDelim = false) (rest : List Instr) (cur : List Stmt)
    (stk : List (Hdr × List Stmt)) : structGo (i :: rest) cur stk = structGo rest (.atom i :: cur) stk := by
  cases i with
  | rep | endrep | forr | next => cases h
  | _ => rfl

mutual
  theorem structGo_flattenStmt (s : Stmt) (h : s.clean = true) (rest : List Instr) (cur : List Stmt)
      (stk : List (Hdr × List Stmt)) :
      structGo (flattenStmt s ++ rest) cur stk = structGo rest (s :: cur) stk := by
    match s, h with
    | .atom i, h =>
      simp only [flattenStmt, List.cons_append, List.nil_append]
      exact structGo_atom i (by simpa [Stmt.clean] using h) rest cur stk
    | .rep n body, h =>
      simp only [flattenStmt, List.cons_append, List.append_assoc, structGo]
      rw [structGo_flattenStmts body (by simpa [Stmt.clean] using h)]
      simp [structGo]
    | .forr v lo hi body, h =>
      simp only [flattenStmt, List.cons_append, List.append_assoc, structGo]
      rw [structGo_flattenStmts body (by simpa [Stmt.clean] using h)]
      simp [structGo]
  theorem structGo_flattenStmts (ss : List Stmt) (h : cleanList ss = true) (rest : List Instr) (cur : List Stmt)
      (stk : List (Hdr × List Stmt)) :
      structGo (flattenStmts ss ++ rest) cur stk = structGo rest (ss.reverse ++ cur) stk := by
    match ss, h with
    | [], _ => simp [flattenStmts]
    | s :: ss, h =>
      have h' : s.clean = true ∧ cleanList ss = true := by simpa [cleanList] using h
      simp only [flattenStmts, List.append_assoc]
      rw [structGo_flattenStmt s h'.1, structGo_flattenStmts ss h'.2]
      simp
end

theorem structure?_flattenStmts (ss : List Stmt) (h : cleanList ss = true) :
    structure? (flattenStmts ss) = some ss := by
  have := structGo_flattenStmts ss h [] [] []
  simp only [List.append_nil] at this
  simp [structure?, this, structGo]

theorem dwellOfList_append (a b : List Stmt) : dwellOfList (a ++ b) = dwellOfList a + dwellOfList b := by
  induction a with
  | nil => simp [dwellOfList]
  | cons s ss ih => simp [dwellOfList, ih, add_assoc]

end Femto.Ctl
