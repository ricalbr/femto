/-
The compile-side model of a trench call file (`Model/TrenchProg.lean`), piece by piece.  Every step of a block except the wall
loop prints lines only (`Lines p`, for any set of lines `p` that admits what the step prints); the wall loop is one `REPEAT`
around such lines.
-/
import FemtoVerif.Proofs.Session

namespace Femto.TP
open Femto.Ctl Femto.Gc

variable {p : Instr → Bool}

theorem instrR_lines (is : List Instr) (hp : ∀ i ∈ is, p i = true) (hd : ∀ i ∈ is, instrDwell i = 0) (cs : CS) :
    Lines p cs (instrR is cs) := Lines.ofEmits (Emits.lines cs is hp hd) none

theorem forall_mem_pair {α : Type} {P : α → Prop} {a b : α} (ha : P a) (hb : P b) : ∀ x ∈ [a, b], P x :=
  List.forall_mem_cons.mpr ⟨ha, List.forall_mem_singleton.mpr hb⟩

theorem instr_lines (i : Instr) (hp : p i = true) (hd : instrDwell i = 0) (cs : CS) : Lines p cs (instrR [i] cs) :=
  instrR_lines [i] (List.forall_mem_singleton.mpr hp) (List.forall_mem_singleton.mpr hd) cs

theorem comment_lines (h1 : p .blank = true) (h2 : ∀ s, p (.comment s) = true) (b : Bool) (cs : CS) :
    Lines p cs (Res.ofOut (comment b cs)) := Lines.ofEmits (comment_emits h1 h2 b cs) none

theorem dwellR_lines (h : ∀ t, p (.dwell t) = true) (t : Option Rat) (cs : CS) : Lines p cs (dwellR t cs) :=
  Lines.ofEmits (dwell_emits h t cs) none

theorem shutterR_lines (h : ∀ a on, p (.pso a on) = true) (cfg : Cfg) (on : Bool) (cs : CS) : Lines p cs (shutterR cfg on cs) :=
  Lines.ofEmits (shutter_emits h cfg on cs) none

theorem uMove_lines (hd : ∀ t, p (.dwell t) = true) (hg : ∀ v, p (g1U v) = true) (cfg : Cfg) (u : Option Rat) (pause : Bool)
    (cs : CS) : Lines p cs (uMove cfg u pause cs) := by
  unfold uMove
  cases u with
  | none => exact Lines.stop p cs none
  | some v =>
    have hi := instr_lines (p := p) (g1U v) (hg v) rfl
    cases pause
    · exact hi cs
    · exact (hi cs).andThen (dwellR_lines hd cfg.longPause)

theorem moveToR_eq (cfg : Cfg) (x y z sp : Option Rat) (cs : CS) :
    moveToR cfg x y z sp cs = match formatArgs cfg.digits x y z (some (sp.getD cfg.speedPos)) with
      | .error e => { Res.ofOut (closeIfOpen cfg cs) with err := some e }
      | .ok w => (((Res.ofOut (closeIfOpen cfg cs)).andThen (instrR [.g1 w])).andThen (dwellR cfg.longPause)).andThen (instrR [.blank]) := by
  unfold moveToR moveTo
  cases formatArgs cfg.digits x y z (some (sp.getD cfg.speedPos)) <;> simp [Res.ofOut, Res.andThen, seq, instrR, dwellR]

/-- any line but a loop delimiter: what the clean / dwell accounting, the hoisted lines and the loop shape need to know -/
abbrev anyLine (i : Instr) : Bool := !i.isDelim

theorem any_clean (i : Instr) (h : anyLine i = true) : i.isDelim = false := by simpa using h

theorem msg_any (cs : CS) : Lines anyLine cs (instrR [.msg] cs) := instr_lines .msg rfl rfl cs

theorem comment_any (b : Bool) (cs : CS) : Lines anyLine cs (Res.ofOut (comment b cs)) := comment_lines rfl (fun _ => rfl) b cs

theorem shutter_any (cfg : Cfg) (on : Bool) (cs : CS) : Lines anyLine cs (shutterR cfg on cs) := shutterR_lines (fun _ _ => rfl) cfg on cs

theorem uMove_any (cfg : Cfg) {u : Option Rat} (pause : Bool) (cs : CS) : Lines anyLine cs (uMove cfg u pause cs) :=
  uMove_lines (fun _ => rfl) (fun _ => rfl) cfg u pause cs

theorem moveTo_any (cfg : Cfg) {x y z sp : Option Rat} (cs : CS) : Lines anyLine cs (moveToR cfg x y z sp cs) :=
  moveRes_lines (fun _ _ => rfl) (fun _ => rfl) rfl cfg x y z sp (fun _ _ => rfl) cs

theorem load_any {path : String} (k : Nat) (cs : CS) : Lines anyLine cs (loadOp path k cs) := loadOp_lines (fun _ _ => rfl) path k cs

theorem remove_any {path : String} (k : Nat) (cs : CS) : Lines anyLine cs (removeOp path k cs) :=
  removeOp_lines (fun _ => rfl) (fun _ => rfl) (fun _ => rfl) path k cs

theorem farcall_any (cfg : Cfg) {path : String} (cs : CS) : Lines anyLine cs (farcallOp cfg path cs) :=
  farcallOp_lines (fun _ => rfl) cfg path rfl cs

theorem wallLoopBody_lines (cfg : Cfg) (path : String) (q : Rat) (cs : CS) :
    Lines anyLine cs ((farcallOp cfg path cs).andThen (instrR [.incVar "zcurr" q, .g1 { zvar := some "ZCURR" }])) :=
  (farcall_any cfg cs).andThen (instrR_lines _ (forall_mem_pair rfl rfl) (forall_mem_pair rfl rfl))

/- In the two lemmas below the increment is made opaque and the `let` of `wallLoop` is reduced before the final `exact`:
otherwise unification unfolds `farcallOp` on the concrete program name and starts evaluating string functions. -/

theorem wallLoop_ok (cfg : Cfg) (c : Col) (i : Nat) (cs : CS) : ResOK cs (wallLoop cfg c i cs) := by
  unfold wallLoop
  generalize fmt 6 (c.deltaz / cfg.neff) = q
  split
  · exact ResOK.stop cs _
  · have h := (ResOK.compositional cfg).rep (n := c.nRep) (by omega) ((wallLoopBody_lines cfg (c.wall i) q cs).ok any_clean)
    dsimp only at h ⊢
    exact h

theorem wallLoop_pre (cfg : Cfg) (c : Col) (i : Nat) (cs : CS) : (wallLoop cfg c i cs).pre = [] := by
  unfold wallLoop
  generalize fmt 6 (c.deltaz / cfg.neff) = q
  split
  · rfl
  · dsimp only
    exact (wallLoopBody_lines cfg (c.wall i) q cs).pre

end Femto.TP

namespace Femto.C06
open Femto.Ctl Femto.Gc Femto.TP

def wallPrefix (cfg : Cfg) (c : Col) (nbox i : Nat) (xy : Rat × Rat) (cs : CS) : Res :=
  let p := transform cfg xy.1 xy.2 ((nbox : Rat) * c.hBox + c.zOff)
  (((((((Res.ofOut (comment true cs)).andThen
    (loadOp (inCol c (c.wall i)) 2)).andThen
    (instrR [.msg])).andThen
    (shutterR cfg false)).andThen
    (uMove cfg (c.u.map (·.1)) true)).andThen
    (moveToR cfg (some p.1) (some p.2.1) (some p.2.2) (some c.speedClosed))).andThen
    (instrR [.setVar "zcurr" (fmt 6 p.2.2)])).andThen
    (shutterR cfg true)

def floorPrefix (cfg : Cfg) (c : Col) (i : Nat) (cs : CS) : Res :=
  (((((removeOp (c.wall i) 2 cs).andThen (shutterR cfg false)).andThen (loadOp (inCol c (c.floor i)) 2)).andThen
    (instrR [.msg])).andThen (uMove cfg (c.u.map (·.2)) true)).andThen (shutterR cfg true)

def floorPart (cfg : Cfg) (c : Col) (i : Nat) (cs : CS) : Res :=
  ((floorPrefix cfg c i cs).andThen (farcallOp cfg (c.floor i))).andThen fun cs =>
    ((shutterR cfg false cs).andThen (uMove cfg (c.u.map (·.1)) false)).andThen (removeOp (c.floor i) 2)

theorem trenchBlock_parts (cfg : Cfg) (c : Col) (nbox i : Nat) (xy : Rat × Rat) (cs : CS) :
    trenchBlock cfg c nbox i xy cs = ((wallPrefix cfg c nbox i xy cs).andThen (wallLoop cfg c i)).andThen (floorPart cfg c i) := by
  -- with the steps of the floor part associated to the left, the right side is `trenchBlock` as it is defined
  unfold floorPart floorPrefix trenchBlock
  simp only [← andThen_assoc]
  rfl

theorem wallPrefix_lines (cfg : Cfg) (c : Col) (nbox i : Nat) (xy : Rat × Rat) (cs : CS) :
    Lines anyLine cs (wallPrefix cfg c nbox i xy cs) := by
  unfold wallPrefix
  exact (((((((comment_any true cs).andThen (load_any 2)).andThen msg_any).andThen (shutter_any cfg false)).andThen
    (uMove_any cfg true)).andThen (moveTo_any cfg)).andThen (instr_lines _ rfl rfl)).andThen (shutter_any cfg true)

theorem floorPart_lines (cfg : Cfg) (c : Col) (i : Nat) (cs : CS) : Lines anyLine cs (floorPart cfg c i cs) :=
  (((((((remove_any 2 cs).andThen (shutter_any cfg false)).andThen (load_any 2)).andThen msg_any).andThen
    (uMove_any cfg true)).andThen (shutter_any cfg true)).andThen (farcall_any cfg)).andThen fun cs =>
    ((shutter_any cfg false cs).andThen (uMove_any cfg false)).andThen (remove_any 2)

theorem bedBlock_lines (cfg : Cfg) (c : Col) (k : Nat) (xy : Rat × Rat) (cs : CS) : Lines anyLine cs (bedBlock cfg c k xy cs) := by
  unfold bedBlock
  exact ((((((((((comment_any true cs).andThen (shutter_any cfg false)).andThen (load_any 2)).andThen msg_any).andThen
    (uMove_any cfg true)).andThen (moveTo_any cfg)).andThen (shutter_any cfg true)).andThen (farcall_any cfg)).andThen
    (shutter_any cfg false)).andThen (uMove_any cfg false)).andThen (remove_any 2)

theorem bedsFrom_lines (cfg : Cfg) (c : Col) (l : List (Nat × (Rat × Rat))) (cs : CS) : Lines anyLine cs (bedsFrom cfg c l cs) := by
  induction l generalizing cs with
  | nil => exact Lines.stop _ cs none
  | cons b l ih => exact (bedBlock_lines cfg c b.1 b.2 cs).andThen ih

/-! what is hoisted: only `dvar` puts anything before the header -/

theorem andThen_pre_nil {a : Res} {f : CS → Res} (ha : a.pre = []) (hf : ∀ cs, (f cs).pre = []) : (a.andThen f).pre = [] := by
  cases he : a.err with
  | some e => rw [andThen_of_err f he, ha]
  | none => simp [andThen_of_ok f he, ha, hf]

theorem blocksFrom_pre (cfg : Cfg) (c : Col) (l : List (Nat × Nat × (Rat × Rat))) (cs : CS) : (blocksFrom cfg c l cs).pre = [] := by
  induction l generalizing cs with
  | nil => rfl
  | cons b l ih =>
    refine andThen_pre_nil ?_ ih
    rw [trenchBlock_parts]
    exact andThen_pre_nil (andThen_pre_nil (wallPrefix_lines cfg c _ _ _ cs).pre (wallLoop_pre cfg c _))
      fun c' => (floorPart_lines cfg c _ c').pre

theorem blocksFrom_ok (cfg : Cfg) (c : Col) (l : List (Nat × Nat × (Rat × Rat))) (cs : CS) : ResOK cs (blocksFrom cfg c l cs) := by
  induction l generalizing cs with
  | nil => exact ResOK.stop cs none
  | cons b l ih =>
    refine andThen_ok ?_ ih
    rw [trenchBlock_parts]
    exact andThen_ok (andThen_ok ((wallPrefix_lines cfg c _ _ _ cs).ok any_clean) (wallLoop_ok cfg c _))
      fun c' => (floorPart_lines cfg c _ c').ok any_clean

end Femto.C06
