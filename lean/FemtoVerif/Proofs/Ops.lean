/-
One induction over the operations of a session: an invariant of operation results (`P cs r`: from compiler state `cs` the
operations produced `r`) that the control structure of the compiler keeps (`Control`) and that holds of every operation that is
not a block holds of `execOps cfg ops cs`.  What a session prints after the laser header is itself such a sequence
(`sessionWith_res`).
-/
import FemtoVerif.Proofs.Emits
import FemtoVerif.Model.TrenchProg

namespace Femto.Gc
open Femto.Ctl

/-- the lines of the sub-program operations -/
def progInstr : Instr → Bool
  | .blank | .dwell _ | .load .. | .stop _ | .waitIdle _ | .remove _ | .farcall _ | .buffered .. => true
  | _ => false

/-- the lines of the operations that are not blocks, the hoisted `DVAR` apart -/
def opInstr : Instr → Bool
  | .g92 .. | .load .. | .stop _ | .waitIdle _ | .remove _ | .farcall _ | .buffered .. => true
  | i => plainInstr i

/- Inclusions of line sets (here and in the analyses) are proved along the test that names fewer instructions, not over all of
`Instr`: each instruction named is settled by the hypothesis or by `rfl`, and so is the default branch. -/
theorem plain_op (i : Instr) (h : plainInstr i = true) : opInstr i = true := by
  unfold opInstr
  split <;> first | rfl | exact h

theorem prog_op (i : Instr) (h : progInstr i = true) : opInstr i = true := by
  unfold progInstr at h
  split at h <;> first | rfl | cases h

/-- result of a step that prints lines only, whether or not it stopped with an error; unlike `Emits`, the list of loaded
programs may change -/
structure Lines (p : Instr → Bool) (cs : CS) (r : Res) : Prop extends Printed p cs r.cs r.out where
  pre : r.pre = []

/-- result of an operation that is neither a block nor a declaration -/
abbrev Leaf (cs : CS) (r : Res) : Prop := Lines opInstr cs r

variable {cfg : Cfg} {cs : CS} {p q : Instr → Bool}

theorem Lines.mono {r : Res} (h : ∀ i, p i = true → q i = true) (e : Lines p cs r) : Lines q cs r := ⟨e.toPrinted.mono h, e.pre⟩

theorem Lines.ofEmits {o : Out} (h : Emits p cs o) (e : Option Err) : Lines p cs { out := o.1, cs := o.2, err := e } :=
  ⟨h.toPrinted, rfl⟩

theorem Lines.stop (p : Instr → Bool) (cs : CS) (e : Option Err) : Lines p cs { cs := cs, err := e } := ⟨Printed.nil _ _, rfl⟩

theorem Lines.lines (cs : CS) (is : List Instr) (L : List String) (hp : ∀ i ∈ is, p i = true)
    (hd : ∀ i ∈ is, instrDwell i = 0) : Lines p cs { out := emit is, cs := { cs with loaded := L } } :=
  ⟨{ (Emits.lines cs is hp hd).toPrinted with }, rfl⟩

theorem Lines.andThen {a : Res} {f : CS → Res} (ha : Lines p cs a) (hf : ∀ c, Lines p c (f c)) : Lines p cs (a.andThen f) :=
  andThen_cases ha ⟨ha.toPrinted.append (hf a.cs).toPrinted, by simp [ha.pre, (hf a.cs).pre]⟩

theorem moveRes_lines (hp : ∀ a on, p (.pso a on) = true) (hd : ∀ t, p (.dwell t) = true) (hb : p .blank = true) (cfg : Cfg)
    (x y z sp : Option Rat) (hw : ∀ w, formatArgs cfg.digits x y z (some (sp.getD cfg.speedPos)) = .ok w → p (.g1 w) = true)
    (cs : CS) : Lines p cs (let r := moveTo cfg x y z sp cs; ({ out := r.1.1, cs := r.1.2, err := r.2 } : Res)) :=
  Lines.ofEmits (moveTo_emits hp hd hb cfg x y z sp hw cs) _

theorem moveRes_leaf (cfg : Cfg) (x y z sp : Option Rat) (cs : CS) :
    Leaf cs (let r := moveTo cfg x y z sp cs; ({ out := r.1.1, cs := r.1.2, err := r.2 } : Res)) :=
  moveRes_lines (fun _ _ => rfl) (fun _ => rfl) rfl cfg x y z sp (fun _ h => plain_op _ (formatArgs_plain h)) cs

theorem loadOp_lines (h : ∀ k s, p (.load k s) = true) (path : String) (k : Nat) (cs : CS) : Lines p cs (loadOp path k cs) :=
  pgmGuard (fun _ => Lines.stop p cs _) fun _ => Lines.lines cs _ _ (by simp [h]) (noDwell rfl)

theorem removeOp_lines (h1 : ∀ k, p (.stop k) = true) (h2 : ∀ k, p (.waitIdle k) = true) (h3 : ∀ n, p (.remove n) = true)
    (path : String) (k : Nat) (cs : CS) : Lines p cs (removeOp path k cs) :=
  loadedGuard (fun _ => Lines.stop p cs _) fun _ _ => Lines.lines cs _ _ (by simp [h1, h2, h3]) (noDwell rfl)

/-- the shape of `farcall`, `bufferedcall` and the separator of `farcall_list` -/
theorem pauseLines (hd : ∀ t, p (.dwell t) = true) (cfg : Cfg) (cs : CS) (is : List Instr) (hp : ∀ i ∈ is, p i = true)
    (hz : ∀ i ∈ is, instrDwell i = 0) : Lines p cs (Res.ofOut (seq (dwell cfg.shortPause cs) fun cs => (emit is, cs))) :=
  ⟨((dwell_emits hd _ cs).seq fun c => Emits.lines c is hp hz).toPrinted, rfl⟩

theorem farcallOp_lines (hd : ∀ t, p (.dwell t) = true) (cfg : Cfg) (path : String) (hf : p (.farcall path) = true) (cs : CS) :
    Lines p cs (farcallOp cfg path cs) :=
  loadedGuard (fun _ => Lines.stop p cs _) fun _ _ => pauseLines hd cfg cs _ (by simp [hf]) (noDwell rfl)

theorem loadOp_out (path : String) (k : Nat) (cs : CS) (h : (loadOp path k cs).err = none) :
    (loadOp path k cs).out = emit [.load k path] := by
  revert h
  unfold loadOp
  exact pgmGuard (Q := fun r => r.err = none → r.out = emit [.load k path]) (fun _ h => by cases h) fun _ _ => rfl

theorem farcallOp_out (cfg : Cfg) (path : String) (cs : CS) (h : (farcallOp cfg path cs).err = none) :
    (farcallOp cfg path cs).out = (dwell cfg.shortPause cs).1 ++ emit [.farcall path] := by
  revert h
  unfold farcallOp
  exact loadedGuard (Q := fun r => r.err = none → r.out = (dwell cfg.shortPause cs).1 ++ emit [.farcall path])
    (fun _ h => by cases h) fun _ _ _ => rfl

theorem removeOp_out (path : String) (k : Nat) (cs : CS) (h : (removeOp path k cs).err = none) :
    (removeOp path k cs).out = emit [.stop k, .waitIdle k, .remove (posixName path)] := by
  revert h
  unfold removeOp
  exact loadedGuard (Q := fun r => r.err = none → r.out = emit [.stop k, .waitIdle k, .remove (posixName path)])
    (fun _ h => by cases h) fun _ _ _ => rfl

theorem loadOp_prog (path : String) (k : Nat) (cs : CS) : Lines progInstr cs (loadOp path k cs) := loadOp_lines (fun _ _ => rfl) path k cs
theorem removeOp_prog (path : String) (k : Nat) (cs : CS) : Lines progInstr cs (removeOp path k cs) :=
  removeOp_lines (fun _ => rfl) (fun _ => rfl) (fun _ => rfl) path k cs
theorem farcallOp_prog (cfg : Cfg) (path : String) (cs : CS) : Lines progInstr cs (farcallOp cfg path cs) :=
  farcallOp_lines (fun _ => rfl) cfg path rfl cs

theorem bufferedOp_prog (cfg : Cfg) (path : String) (k : Nat) (cs : CS) : Lines progInstr cs (bufferedOp cfg path k cs) :=
  loadedGuard (fun _ => Lines.stop _ cs _) fun _ _ => pauseLines (fun _ => rfl) cfg cs _ (List.all_eq_true.1 rfl) (noDwell rfl)

theorem farcallListOp_prog (cfg : Cfg) (items : List (String × Nat)) (cs : CS) : Lines progInstr cs (farcallListOp cfg items cs) := by
  induction items generalizing cs with
  | nil => exact Lines.stop _ cs none
  | cons hd rest ih =>
    exact ((((loadOp_prog _ _ cs).andThen (farcallOp_prog cfg _)).andThen fun c =>
      Lines.ofEmits (dwell_emits (fun _ => rfl) _ c) none).andThen (removeOp_prog _ _)).andThen fun c =>
        (pauseLines (fun _ => rfl) cfg c _ (List.all_eq_true.1 rfl) (noDwell rfl)).andThen ih

theorem execOps_cons (cfg : Cfg) (op : Op) (ops : List Op) (cs : CS) :
    execOps cfg (op :: ops) cs = (execOp cfg op cs).andThen (execOps cfg ops) := by
  rw [execOps, Res.andThen]

theorem execOps_append (cfg : Cfg) (a b : List Op) (cs : CS) :
    execOps cfg (a ++ b) cs = (execOps cfg a cs).andThen (execOps cfg b) := by
  induction a generalizing cs with
  | nil => simp [execOps, Res.andThen]
  | cons op ops ih => rw [List.cons_append, execOps_cons, execOps_cons, andThen_assoc, funext ih]

variable {P : CS → Res → Prop}

def Op.isBlock : Op → Bool
  | .rep .. | .forr .. | .axisRot .. | .attempt _ => true
  | _ => false

/-- a condition on operations that a list passes to its members and a block to its body (`closedOp` / `closedOps` of C03,
"every file name mentioned is in `U`") -/
structure Guard (G : Op → Prop) (Gs : List Op → Prop) : Prop where
  cons : ∀ {op ops}, Gs (op :: ops) → G op ∧ Gs ops
  rep : ∀ {n b}, G (.rep n b) → Gs b
  forr : ∀ {v n b}, G (.forr v n b) → Gs b
  rot : ∀ {a b}, G (.axisRot a b) → Gs b
  attempt : ∀ {b}, G (.attempt b) → Gs b

/-- `P` is kept by sequencing, by stopping, and by each of the four block constructs of `execOp` (the right sides are the
results `execOp` builds around the result `r` of the body) -/
structure Control (cfg : Cfg) (P : CS → Res → Prop) : Prop where
  stop : ∀ cs e, P cs { cs := cs, err := e }
  andThen : ∀ {cs a f}, P cs a → (∀ c, P c (f c)) → P cs (a.andThen f)
  rep : ∀ {n : Int} {cs r}, 0 < n → P cs r →
    P cs { out := [Stmt.rep n.toNat r.out, Stmt.atom .blank], pre := r.pre,
           cs := { r.cs with dwellTotal := r.cs.dwellTotal + loopIncr n cs.dwellTotal r.cs.dwellTotal }, err := r.err }
  forr : ∀ {v : String} {n : Int} {cs r}, 0 < n → cs.dvars.contains (lower v) = true → P cs r →
    P cs { out := [Stmt.forr (lower v) 0 (n - 1) r.out, Stmt.atom .blank], pre := r.pre,
           cs := { r.cs with dwellTotal := r.cs.dwellTotal + loopIncr n cs.dwellTotal r.cs.dwellTotal }, err := r.err }
  rot : ∀ {a : Option Rat} {cs : CS} {r : Res}, P (enterRot cfg a cs).2 r →
    P cs { out := (enterRot cfg a cs).1 ++ r.out ++ (exitRot cfg r.cs).1, pre := r.pre, cs := (exitRot cfg r.cs).2, err := r.err }
  attempt : ∀ {cs r}, P cs r → P cs { r with err := none }

section
variable {G : Op → Prop} {Gs : List Op → Prop}

mutual
  theorem Control.execOp (h : Control cfg P) (hg : Guard G Gs)
      (leaf : ∀ op cs, op.isBlock = false → G op → P cs (execOp cfg op cs)) (op : Op) (cs : CS) (g : G op) :
      P cs (execOp cfg op cs) := by
    match op with
    | .rep n body =>
      simp only [Gc.execOp]
      split
      · exact h.stop cs _
      · exact h.rep (by omega) (h.execOps hg leaf body cs (hg.rep g))
    | .forr v n body =>
      simp only [Gc.execOp]
      split
      · exact h.stop cs _
      · split
        · exact h.stop cs _
        · rename_i hd
          exact h.forr (by omega) (by simpa using hd) (h.execOps hg leaf body cs (hg.forr g))
    | .axisRot a body => exact h.rot (h.execOps hg leaf body _ (hg.rot g))
    | .attempt body => exact h.attempt (h.execOps hg leaf body cs (hg.attempt g))
    | .write _ | .moveTo .. | .goOrigin | .goInit | .dwell _ | .comment _ | .setHome .. | .dvar _ | .load .. | .farcall _
    | .buffered .. | .remove .. | .farcallList _ | .raise | .loadBad _ => exact leaf _ cs rfl g
  theorem Control.execOps (h : Control cfg P) (hg : Guard G Gs)
      (leaf : ∀ op cs, op.isBlock = false → G op → P cs (execOp cfg op cs)) (ops : List Op) (cs : CS) (g : Gs ops) :
      P cs (execOps cfg ops cs) := by
    match ops with
    | [] => exact h.stop cs none
    | op :: ops =>
      rw [execOps_cons]
      exact h.andThen (h.execOp hg leaf op cs (hg.cons g).1) fun c => h.execOps hg leaf ops c (hg.cons g).2
end
end

theorem execOp_leaf (cfg : Cfg) (op : Op) (cs : CS) (hb : op.isBlock = false) (hd : ∀ vs, op ≠ .dvar vs) :
    Leaf cs (execOp cfg op cs) := by
  cases op with
  | write m =>
    simp only [execOp]
    cases hw : write cfg m cs with
    | ok o => exact (Lines.ofEmits (write_emits hw) none).mono plain_op
    | error e => exact Lines.stop _ cs _
  | moveTo x y z sp => exact moveRes_leaf cfg x y z sp cs
  | goOrigin => exact (Lines.ofEmits (comment_emits rfl (fun _ => rfl) true cs) none).andThen fun c => moveRes_leaf cfg _ _ _ _ c
  | goInit => exact moveRes_leaf cfg _ _ _ _ cs
  | dwell p => exact Lines.ofEmits (dwell_emits (fun _ => rfl) p cs) none
  | comment b => exact Lines.ofEmits (comment_emits rfl (fun _ => rfl) b cs) none
  | setHome x y z =>
    simp only [execOp]
    split
    · exact Lines.stop _ cs _
    · exact Lines.lines cs [.g92 _ _ _] cs.loaded (List.forall_mem_singleton.2 rfl) (List.forall_mem_singleton.2 rfl)
  | dvar vs => exact absurd rfl (hd vs)
  | load p t => exact (loadOp_prog p t cs).mono prog_op
  | farcall p => exact (farcallOp_prog cfg p cs).mono prog_op
  | buffered p t => exact (bufferedOp_prog cfg p t cs).mono prog_op
  | remove p t => exact (removeOp_prog p t cs).mono prog_op
  | farcallList items => exact (farcallListOp_prog cfg items cs).mono prog_op
  | raise => exact Lines.stop _ cs _
  | loadBad p => exact Lines.stop _ cs _
  | _ => cases hb

/-- … and holds of everything that prints lines only and of `DVAR`: then it holds of every operation (`Compositional.execOp`) and
of the whole session (`Compositional.session`) -/
structure Compositional (cfg : Cfg) (P : CS → Res → Prop) : Prop extends Control cfg P where
  leaf : ∀ {cs r}, Leaf cs r → P cs r
  dvar : ∀ (vs : List String) (cs : CS),
    P cs { pre := emit [.dvar (vs.map lower), .blank], cs := { cs with dvars := cs.dvars ++ vs.map lower } }
  stop := fun cs e => leaf (Lines.stop _ cs e)

theorem Guard.trivial : Guard (fun _ => True) (fun _ => True) := by constructor <;> simp

theorem Compositional.execOp_leaf (h : Compositional cfg P) (op : Op) (cs : CS) (hb : op.isBlock = false) :
    P cs (execOp cfg op cs) := by
  by_cases hd : ∃ vs, op = .dvar vs
  · obtain ⟨vs, rfl⟩ := hd
    exact h.dvar vs cs
  · exact h.leaf (Gc.execOp_leaf cfg op cs hb fun vs e => hd ⟨vs, e⟩)

theorem Compositional.execOp (h : Compositional cfg P) (op : Op) (cs : CS) : P cs (execOp cfg op cs) :=
  h.toControl.execOp Guard.trivial (fun op cs hb _ => h.execOp_leaf op cs hb) op cs trivial

theorem Compositional.execOps (h : Compositional cfg P) (ops : List Op) (cs : CS) : P cs (execOps cfg ops cs) :=
  h.toControl.execOps Guard.trivial (fun op cs hb _ => h.execOp_leaf op cs hb) ops cs trivial

/-- `__enter__` before the rotation -/
def sessionHead (cfg : Cfg) : Out :=
  seq (seq (emit (cfg.header ++ [.blank]), ({} : CS)) (dwell (some 1))) fun cs => (emit [.blank], cs)

theorem sessionHead_eq (cfg : Cfg) :
    sessionHead cfg = (emit (cfg.header ++ [.blank, .dwell (rabs 1), .blank]), { dwellTotal := rabs 1 }) := by
  simp [sessionHead, seq, dwell, emit]

/-- `__exit__` after `_exit_axis_rotation` -/
def sessionTail (cfg : Cfg) (cs : CS) : Out :=
  seq (if cfg.aeroAngle = 0 then ([], cs) else (emit [.blank], cs)) fun cs =>
    if cfg.home = true then (moveTo cfg (some (-2)) (some 0) (some 0) none cs).1 else ([], cs)

theorem sessionTail_emits (cfg : Cfg) (cs : CS) : Emits plainInstr cs (sessionTail cfg cs) := by
  refine Emits.seq (by split; exacts [Emits.nil _ cs, blank_emits cs]) fun c => ?_
  split
  exacts [moveTo_plain cfg _ _ _ _ c, Emits.nil _ c]

theorem sessionWith_noRot (ha : cfg.aeroAngle = 0) (body : CS → Res) :
    TP.sessionWith cfg body =
      ((body (sessionHead cfg).2).pre ++ (sessionHead cfg).1 ++ (body (sessionHead cfg).2).out ++
        (sessionTail cfg (body (sessionHead cfg).2).cs).1, (sessionTail cfg (body (sessionHead cfg).2).cs).2) := by
  simp [TP.sessionWith, sessionHead, sessionTail, seq, ha]

/-- `sessionHead` without the laser header -/
def sessionStart : Out := seq (seq (emit [.blank], ({} : CS)) (dwell (some 1))) fun cs => (emit [.blank], cs)

theorem sessionStart_emits (hb : p .blank = true) (hd : ∀ t, p (.dwell t) = true) : Emits p {} sessionStart :=
  ((Emits.lines {} [.blank] (List.forall_mem_singleton.2 hb) (List.forall_mem_singleton.2 rfl)).seq (dwell_emits hd _)).seq
    fun c => Emits.lines c [.blank] (List.forall_mem_singleton.2 hb) (List.forall_mem_singleton.2 rfl)

/-- **A session is the laser header followed by the result of a sequence of operations**: the start lines, the body — inside a
rotation block when the session has an angle —, whose error (if any) ends there as under `try / except`, and the tail; the
hoisted lines come in front. -/
theorem sessionWith_res (h : Control cfg P) (hstart : P {} (Res.ofOut sessionStart))
    (htail : ∀ cs, P cs (Res.ofOut (sessionTail cfg cs))) (body : CS → Res) (hbody : ∀ cs, P cs (body cs)) :
    ∃ R : Res, P {} R ∧ TP.sessionWith cfg body = (R.pre ++ emit cfg.header ++ R.out, R.cs) := by
  by_cases ha : cfg.aeroAngle = 0
  · exact ⟨_, h.andThen (h.attempt (h.andThen hstart hbody)) htail, by
      simp [TP.sessionWith, sessionStart, sessionTail, ha, seq, emit, Res.andThen, Res.ofOut, List.append_assoc]⟩
  · exact ⟨_, h.andThen (h.attempt (h.andThen hstart fun cs => h.rot (a := some cfg.aeroAngle) (hbody _))) htail, by
      simp [TP.sessionWith, sessionStart, sessionTail, ha, seq, emit, Res.andThen, Res.ofOut, List.append_assoc]⟩

theorem Compositional.sessionWith (h : Compositional cfg P) (body : CS → Res) (hbody : ∀ cs, P cs (body cs)) :
    ∃ R : Res, P {} R ∧ TP.sessionWith cfg body = (R.pre ++ emit cfg.header ++ R.out, R.cs) :=
  sessionWith_res h.toControl (h.leaf (Lines.ofEmits (sessionStart_emits rfl fun _ => rfl) none))
    (fun cs => h.leaf ((Lines.ofEmits (sessionTail_emits cfg cs) none).mono plain_op)) body hbody

theorem Compositional.session (h : Compositional cfg P) (ops : List Op) :
    ∃ R : Res, P {} R ∧ session cfg ops = (R.pre ++ emit cfg.header ++ R.out, R.cs) :=
  h.sessionWith _ (h.execOps ops)

end Femto.Gc
