/-
The flat and the structured interpreter of the reference controller over lists: `++`, runs that keep the shutter closed
(`Closed`), executed dwell.
-/
import FemtoVerif.Proofs.GcLemmas
import FemtoVerif.Proofs.Step

namespace Femto.Ctl
open Femto.Gc

theorem execFlat_append (a b : List Instr) (σ : St) :
    execFlat (a ++ b) σ = ((execFlat b (execFlat a σ).1).1, (execFlat a σ).2 ++ (execFlat b (execFlat a σ).1).2) := by
  induction a generalizing σ with
  | nil => simp [execFlat]
  | cons i is ih => simp [execFlat, ih, List.append_assoc]

theorem flattenStmts_append (a b : List Stmt) : flattenStmts (a ++ b) = flattenStmts a ++ flattenStmts b := by
  induction a with
  | nil => simp [flattenStmts]
  | cons s ss ih => simp [flattenStmts, ih, List.append_assoc]

theorem flattenStmts_emit (is : List Instr) : flattenStmts (emit is) = is := by
  induction is with
  | nil => simp [emit, flattenStmts]
  | cons i is ih => simp only [emit, List.map_cons, flattenStmts, flattenStmt] at ih ⊢; simp [ih]

theorem movesOf_append (a b : List Ev) : movesOf (a ++ b) = movesOf a ++ movesOf b := List.filterMap_append

/-- started with the shutter closed, `run` moves only with the shutter closed and ends with it closed -/
def Closed (run : St → St × List Ev) : Prop :=
  ∀ σ : St, σ.shutter = false → (∀ m ∈ movesOf (run σ).2, m.shutter = false) ∧ (run σ).1.shutter = false

theorem Closed.seq {a b : St → St × List Ev} (ha : Closed a) (hb : Closed b) :
    Closed fun σ => ((b (a σ).1).1, (a σ).2 ++ (b (a σ).1).2) := by
  intro σ h
  obtain ⟨a1, a2⟩ := ha σ h
  obtain ⟨b1, b2⟩ := hb _ a2
  exact ⟨fun m hm => (List.mem_append.mp (movesOf_append _ _ ▸ hm)).elim (a1 m) (b1 m), b2⟩

theorem step_closed {i : Instr} (h : ∀ a, i ≠ .pso a true) : Closed (step · i) := by
  refine fun σ hσ => ⟨fun m hm => (step_move (mem_movesOf.mp hm)).1.trans hσ, ?_⟩
  by_cases hp : ∃ a on, i = .pso a on
  · obtain ⟨a, on, rfl⟩ := hp
    cases on
    · rfl
    · exact absurd rfl (h a)
  · rw [step_shutter σ i fun a on e => hp ⟨a, on, e⟩, hσ]

theorem execFlat_closed (is : List Instr) (h : ∀ i ∈ is, ∀ a, i ≠ .pso a true) : Closed (execFlat is) := by
  induction is with
  | nil => exact fun _ hσ => ⟨fun _ hm => (List.not_mem_nil hm).elim, hσ⟩
  | cons i is ih => exact (step_closed (h i List.mem_cons_self)).seq (ih fun j hj => h j (List.mem_cons_of_mem _ hj))

theorem execRep_dwell_aux (body : List Stmt)
    (hb : ∀ σ, (execStmts body σ).1.dwell = σ.dwell + dwellOfList body) (k : Nat) (σ : St) :
    (execRep k body σ).1.dwell = σ.dwell + k * dwellOfList body := by
  induction k generalizing σ with
  | zero => simp [execRep]
  | succ k ih =>
    rw [execRep]
    simp only [ih, hb]
    push_cast; ring

mutual
  theorem execStmt_dwell (s : Stmt) (σ : St) : (execStmt s σ).1.dwell = σ.dwell + dwellOf s := by
    match s with
    | .atom i => rw [execStmt, step_dwell, dwellOf_atom]
    | .rep n body =>
      rw [execStmt, execRep_dwell_aux body (fun σ => execStmts_dwell body σ), dwellOf]
    | .forr v lo hi body =>
      rw [execStmt, dwellOf]
      have := execRep_dwell_aux body (fun σ => execStmts_dwell body σ) (hi - lo + 1).toNat σ
      split <;> exact this
  theorem execStmts_dwell (ss : List Stmt) (σ : St) : (execStmts ss σ).1.dwell = σ.dwell + dwellOfList ss := by
    match ss with
    | [] => simp [execStmts, dwellOfList]
    | s :: ss =>
      rw [execStmts]
      simp only [execStmts_dwell ss, execStmt_dwell s, dwellOfList]
      ring
end

end Femto.Ctl
