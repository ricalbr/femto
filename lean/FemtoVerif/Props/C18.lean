/-
C18 — the fabrication spreadsheet lists every structure once with true values.
The table logic is proved; the xlsx file format (xlsxwriter / openpyxl round trip) is sampled by the correspondence run.
-/
import FemtoVerif.Model.Sheet
import Mathlib.Tactic.NormNum

namespace Femto.C18
open Femto.Sh

section rows
variable {α : Type}

private theorem le_props : (∀ a b c : Rat × α, decide (a.1 ≤ b.1) = true → decide (b.1 ≤ c.1) = true → decide (a.1 ≤ c.1) = true) ∧
    (∀ a b : Rat × α, (decide (a.1 ≤ b.1) || decide (b.1 ≤ a.1)) = true) := by
  refine ⟨fun _ _ _ h1 h2 => decide_eq_true (Rat.le_trans (of_decide_eq_true h1) (of_decide_eq_true h2)), fun a b => ?_⟩
  rw [Bool.or_eq_true, decide_eq_true_iff, decide_eq_true_iff]
  exact Rat.le_total

/-- **one row per structure**: the rows are a permutation of the waveguides followed by the markers -/
theorem rows_perm (wgs : List (Rat × α)) (mks : List α) : (rows wgs mks).Perm (wgs.map (·.2) ++ mks) := by
  unfold rows
  exact ((List.mergeSort_perm wgs _).map _).append_right mks

/-- **waveguides first, ordered by their input y**, markers after them in their own order -/
theorem rows_sorted (wgs : List (Rat × α)) (mks : List α) :
    ∃ sorted : List (Rat × α), sorted.Perm wgs ∧ sorted.Pairwise (fun a b => a.1 ≤ b.1) ∧
      rows wgs mks = sorted.map (·.2) ++ mks := by
  refine ⟨wgs.mergeSort fun a b => decide (a.1 ≤ b.1), List.mergeSort_perm wgs _, ?_, rfl⟩
  have := List.pairwise_mergeSort (le := fun a b : Rat × α => decide (a.1 ≤ b.1)) le_props.1 le_props.2 wgs
  exact this.imp of_decide_eq_true

/-- the sort is stable: ties keep insertion order -/
theorem rows_stable (wgs : List (Rat × α)) (a b : Rat × α) (hab : a.1 ≤ b.1) (h : [a, b].Sublist wgs) :
    [a, b].Sublist (wgs.mergeSort fun a b => decide (a.1 ≤ b.1)) :=
  List.pair_sublist_mergeSort le_props.1 le_props.2 (decide_eq_true hab) h

theorem rows_length (wgs : List (Rat × α)) (mks : List α) : (rows wgs mks).length = wgs.length + mks.length := by
  simp [rows, List.length_mergeSort]

end rows

/-- **a cell shows the attribute, blank iff it is missing** (for numeric values below the `1e5` placeholder and
non-empty text — the two representable limits of the placeholder scheme) -/
theorem cell_spec (numeric : Bool) (c : Cell) :
    (c = .missing → written (tableVal numeric c) = .missing) ∧
    (∀ q, c = .num q → q < 100000 → written (tableVal numeric c) = .num q) ∧
    (∀ s, c = .txt s → s ≠ "" → written (tableVal numeric c) = .txt s) := by
  refine ⟨?_, ?_, ?_⟩
  · rintro rfl; cases numeric <;> norm_num [tableVal, written]
  · rintro q rfl hq; simp [tableVal, written, hq]
  · rintro s rfl hs; simp [tableVal, written, hs]

/-- the shape of `decideCol` on a non-empty column: two tests in a row that lead away from `keep` -/
theorem decision_cases {n U C : Prop} [Decidable n] [Decidable U] [Decidable C] (v w : Cell) :
    ((if n then Decision.keep else if U then .omitUndefined else if C then .omitConstant v else .keep) = .keep ↔
      n ∨ (¬ U ∧ ¬ C)) ∧
    ((if n then Decision.keep else if U then .omitUndefined else if C then .omitConstant v else .keep) = .omitConstant w ↔
      ¬ n ∧ ¬ U ∧ C ∧ v = w) := by
  split_ifs <;> simp [*]

/-- **a selected column is omitted only when it is undefined for all structures or constant with suppression on**;
`name` is never omitted -/
theorem column_kept_iff (suppr : Bool) (c : Col) (v0 : Cell) (rest : List Cell) :
    decideCol suppr c (v0 :: rest) = .keep ↔
      c.tag = "name" ∨
      (¬ (c.numeric = true ∧ ∀ v ∈ v0 :: rest, isLarge v = true) ∧
       ¬ ((∀ v ∈ v0 :: rest, v = v0) ∧ suppr = true ∧ v0 ≠ .txt "")) := by
  have hU : (c.numeric = true ∧ ∀ v ∈ v0 :: rest, isLarge v = true) ↔ (c.numeric && (v0 :: rest).all isLarge) = true := by
    simp only [Bool.and_eq_true, List.all_eq_true]
  have hC : ((∀ v ∈ v0 :: rest, v = v0) ∧ suppr = true ∧ v0 ≠ .txt "") ↔
      ((v0 :: rest).all (· == v0) && suppr && v0 != Cell.txt "") = true := by
    simp only [Bool.and_eq_true, List.all_eq_true, beq_iff_eq, bne_iff_ne, ne_eq, and_assoc]
  rw [hU, hC]
  exact (decision_cases v0 v0).1

/-- **an omitted constant is shown in the preamble when the preamble has that field** -/
theorem preamble_gets_constant (suppr static : Bool) (c : Col) (vals : List Cell) (v : Cell)
    (h : decideCol suppr c vals = .omitConstant v) (hp : c.inPreamble = true) (hn : c.tag ≠ "name") :
    preambleOf suppr static c vals = .value v := by
  simp [preambleOf, hn, h, hp]

theorem omitted_constant_is_common (suppr : Bool) (c : Col) (vals : List Cell) (v : Cell)
    (h : decideCol suppr c vals = .omitConstant v) : ∀ x ∈ vals, x = v := by
  cases vals with
  | nil => exact fun _ hx => (List.not_mem_nil hx).elim
  | cons v0 rest =>
    obtain ⟨-, -, hc, rfl⟩ := (decision_cases v0 v).2.mp h
    simp only [Bool.and_eq_true, List.all_eq_true, beq_iff_eq] at hc
    exact hc.1.1

example : decideCol true ⟨"speed", true, true⟩ [.num 20, .num 20] = .omitConstant (.num 20) := by decide +kernel
example : decideCol true ⟨"power", true, true⟩ [.num 110000, .num 110000] = .omitUndefined := by decide +kernel
example : decideCol false ⟨"speed", true, true⟩ [.num 20, .num 20] = .keep := by decide +kernel

end Femto.C18
