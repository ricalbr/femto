/-
C19 — saved objects and parameter files round-trip to where the caller said.
Path and dictionary logic is proved; `dill`, `yaml` and `pathlib` themselves are contracts sampled by the correspondence
run (the model's path functions are compared with real `pathlib` on every generated name).
-/
import FemtoVerif.Model.Files

namespace Femto.C19
open Femto.Fl

/-- **the pickle goes where the caller said**: the path as given, with `.pkl` appended exactly when the name does not end
in `.pkl` / `.pickle` — nothing in front of the name is touched, so the directory is kept -/
theorem export_target (p : String) :
    (exportTarget p = p ∧ (Gc.suffixOf (Gc.posixName p) = ".pkl" ∨ Gc.suffixOf (Gc.posixName p) = ".pickle")) ∨
    (exportTarget p = p ++ ".pkl" ∧ Gc.suffixOf (Gc.posixName p) ≠ ".pkl" ∧ Gc.suffixOf (Gc.posixName p) ≠ ".pickle") := by
  unfold exportTarget
  simp only
  by_cases h1 : Gc.suffixOf (Gc.posixName p) = ".pickle"
  · left; simp [h1]
  · by_cases h2 : Gc.suffixOf (Gc.posixName p) = ".pkl"
    · left; simp [h2]
    · right; simp [h1, h2]

section dicts
variable {V : Type}

theorem lookup_append (k : String) (a b : List (String × V)) :
    lookup k (a ++ b) = (lookup k a).orElse fun _ => lookup k b := by
  induction a with
  | nil => simp [lookup]
  | cons e t ih =>
    obtain ⟨k', v⟩ := e
    simp only [List.cons_append, lookup]
    split
    · simp
    · exact ih

theorem lookup_eq_none (k : String) (d : List (String × V)) (h : ∀ e ∈ d, e.1 ≠ k) : lookup k d = none := by
  induction d with
  | nil => rfl
  | cons e t ih =>
    obtain ⟨k', v⟩ := e
    rw [lookup, if_neg (h (k', v) List.mem_cons_self)]
    exact ih fun e he => h e (List.mem_cons_of_mem _ he)

theorem lookup_filter (p : String → Bool) (k : String) (d : List (String × V)) :
    lookup k (d.filter fun e => p e.1) = if p k then lookup k d else none := by
  induction d with
  | nil => simp [lookup]
  | cons e t ih =>
    rw [List.filter_cons]
    by_cases hk : e.1 = k
    · subst hk; cases hp : p e.1 <;> simp [lookup, hp, ih]
    · cases hp : p e.1 <;> simp [lookup, hk, ih]

/-- **DEFAULT merge**: every key the section defines keeps the section's value (also a `null` or a falsy one); every
DEFAULT key it does not define is inherited; no other key appears -/
theorem merge_spec (d s : List (String × V)) (k : String) :
    lookup k (mergeDict d s) = match lookup k s with | some v => some v | none => lookup k d := by
  rw [mergeDict, lookup_append, lookup_filter fun k' => (lookup k' s).isNone]
  cases lookup k s <;> cases lookup k d <;> rfl

theorem no_default (doc : List (String × List (String × V))) (h : ∀ s ∈ doc, s.1 ≠ "DEFAULT") :
    loadParams doc = doc.map (·.2) := by
  have hf : doc.filter (fun s => s.1 != "DEFAULT") = doc := by
    rw [List.filter_eq_self]; intro s hs; simpa using h s hs
  simp [loadParams, lookup_eq_none _ _ h, hf, mergeDict]

theorem empty_doc : loadParams ([] : List (String × List (String × V))) = [] := rfl

/-- one dictionary per section other than DEFAULT — a count only -/
theorem loadParams_length (doc : List (String × List (String × V))) :
    (loadParams doc).length = (doc.filter (fun s => s.1 != "DEFAULT")).length := by simp [loadParams]

/-- **`from_dict` uses exactly the constructor parameters**: a key survives iff it is a parameter name, with its value -/
theorem from_dict_exact_keys (names : List String) (param : List (String × V)) (e : String × V) :
    e ∈ filterKeys names param ↔ e ∈ param ∧ e.1 ∈ names := by
  simp [filterKeys, List.mem_filter]

end dicts

/-- compiled programs go to `export_dir/<name>.pgm` -/
theorem pgm_target (dir f : String) :
    pgmTarget dir f = (if dir = "" then "" else dir ++ "/") ++ (dirOf f ++ Gc.stemOf f ++ ".pgm") := rfl

example : exportTarget "out/run.1/wg" = "out/run.1/wg.pkl" := by decide +kernel
example : exportTarget "out/wg.pkl" = "out/wg.pkl" := by decide +kernel
example : paramsTarget "conf/run1.yaml" = "conf/run1.yaml" := by decide +kernel
example : pgmTarget "a/b" "chip_v1.2.txt" = "a/b/chip_v1.2.pgm" := by decide +kernel
example : loadParams [("DEFAULT", [("speed", 1), ("scan", 6)]), ("wg", [("speed", 20)]), ("mk", [("z", 0)])]
    = [[("scan", 6), ("speed", 20)], [("speed", 1), ("scan", 6), ("z", 0)]] := by decide +kernel

end Femto.C19
