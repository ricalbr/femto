/-
C08 — writers repeat each structure the configured number of times.
-/
import FemtoVerif.Model.Writers
import FemtoVerif.Proofs.Session
import FemtoVerif.Props.C01
import FemtoVerif.Spec.C08
import FemtoVerif.Gen.Data
import FemtoVerif.Props.C11
import FemtoVerif.Proofs.PathLemmas
import Mathlib.Tactic.Ring
import Mathlib.Tactic.Linarith
import Mathlib.Data.Rat.Defs
import Mathlib.Data.List.Chain

namespace Femto.C08
open Femto.Wr Femto.Gc Femto.Ctl Femto.Pth

/-- the order grows outward: two more passes append the pair `±(n + 1) / 2`; `adjOrder_perm`, `_outward` and `_head` are two-step
inductions on this -/
theorem adjScanOrder_add_two (n : Nat) :
    adjScanOrder (n + 2) = adjScanOrder n ++ [((n : Rat) + 1) / 2, -(((n : Rat) + 1) / 2)] := by
  -- `n = 2 (n / 2) + n % 2`, read in ℚ
  have hn : (n : Rat) = 2 * (n / 2 : Nat) + (n % 2 : Nat) := by exact_mod_cast (Nat.div_add_mod n 2).symm
  unfold adjScanOrder
  rw [Nat.add_div_right n Nat.two_pos, Nat.add_mod_right, List.range_succ, List.flatMap_append, List.flatMap_append]
  split
  · rename_i h
    have : ((n / 2 + 1 : Nat) : Rat) = ((n : Rat) + 1) / 2 := by rw [hn, h]; push_cast; ring
    simp only [List.flatMap_cons, List.flatMap_nil, List.append_nil, List.cons_append, this]
  · rename_i h
    have h1 : ((n / 2 : Nat) : Rat) + 1 / 2 = ((n : Rat) + 1) / 2 := by
      rw [hn, Nat.mod_two_ne_one.mp h]; push_cast; ring
    have h2 : -((n / 2 : Nat) : Rat) - 1 / 2 = -(((n : Rat) + 1) / 2) := by rw [← h1]; ring
    simp only [List.flatMap_cons, List.flatMap_nil, List.append_nil, h1, h2]

theorem adjScanOrder_zero : adjScanOrder 0 = [] := rfl
theorem adjScanOrder_one : adjScanOrder 1 = [0] := rfl

/-- the order is a rearrangement of the arithmetic progression `j - (n - 1) / 2`, `j = 0 … n - 1`: every value once -/
theorem adjOrder_perm (n : Nat) : (adjScanOrder n).Perm ((List.range n).map fun j : Nat => (j : Rat) - ((n : Rat) - 1) / 2) := by
  induction n using Nat.twoStepInduction with
  | zero => exact .nil
  | one => exact .of_eq (by simp [adjScanOrder_one])
  | more n ih _ =>
    -- the order for `n` fills the indices `1 … n` of the progression for `n + 2`; the new pair fills `n + 1` and `0`
    have e0 : ((0 : Nat) : Rat) - (((n + 2 : Nat) : Rat) - 1) / 2 = -(((n : Rat) + 1) / 2) := by push_cast; ring
    have e1 : ((n + 1 : Nat) : Rat) - (((n + 2 : Nat) : Rat) - 1) / 2 = ((n : Rat) + 1) / 2 := by push_cast; ring
    have es : (fun j : Nat => (j : Rat) - (((n + 2 : Nat) : Rat) - 1) / 2) ∘ Nat.succ =
        fun j : Nat => (j : Rat) - ((n : Rat) - 1) / 2 := funext fun j => by simp only [Function.comp_apply]; push_cast; ring
    rw [adjScanOrder_add_two, List.range_succ_eq_map, List.range_succ, List.map_cons, List.map_map, List.map_append, e0,
      List.map_singleton, Function.comp_apply, e1, es]
    -- bring the last entry to the front; under it, the induction hypothesis
    exact (List.append_assoc _ [_] [_]).symm ▸ (List.perm_append_singleton _ _).trans ((ih.append_right _).cons _)

/-- one pass per adjacent scan -/
theorem adjOrder_length (n : Nat) : (adjScanOrder n).length = n := by
  rw [(adjOrder_perm n).length_eq, List.length_map, List.length_range]

/-- which offsets occur: for an odd count `0, ±1, …, ±(n-1)/2`; for an even count `±1/2, ±3/2, …, ±(n-1)/2` -/
theorem adjOrder_mem (n : Nat) (k : Rat) :
    k ∈ adjScanOrder n ↔
      (n % 2 = 1 ∧ (k = 0 ∨ ∃ i : Nat, i < n / 2 ∧ (k = ((i + 1 : Nat) : Rat) ∨ k = -((i + 1 : Nat) : Rat)))) ∨
      (n % 2 ≠ 1 ∧ ∃ i : Nat, i < n / 2 ∧ (k = (i : Rat) + 1 / 2 ∨ k = -(i : Rat) - 1 / 2)) := by
  unfold adjScanOrder
  split
  · rename_i h
    simp only [h, true_and, ne_eq, not_true_eq_false, false_and, or_false, List.mem_cons, List.mem_flatMap, List.mem_range,
      List.not_mem_nil]
  · rename_i h
    simp only [h, false_and, false_or, ne_eq, not_false_eq_true, true_and, List.mem_flatMap, List.mem_range, List.mem_cons,
      List.not_mem_nil, or_false]

/-- **spaced by the configured shift**: the offsets are exactly the `n` values `j - (n-1)/2`, `j = 0 … n-1`
(an arithmetic progression of step one pass, centred on 0) -/
theorem adjOrder_values (n : Nat) (k : Rat) :
    k ∈ adjScanOrder n ↔ ∃ j : Nat, j < n ∧ k = (j : Rat) - ((n : Rat) - 1) / 2 := by
  simp only [(adjOrder_perm n).mem_iff, List.mem_map, List.mem_range, eq_comm]

/-- **symmetric about the nominal path**: with every offset its opposite occurs -/
theorem adjOrder_symmetric (n : Nat) (k : Rat) (h : k ∈ adjScanOrder n) : -k ∈ adjScanOrder n := by
  -- the progression read from its other end
  obtain ⟨j, hj, rfl⟩ := (adjOrder_values n k).mp h
  refine (adjOrder_values n _).mpr ⟨n - (j + 1), Nat.sub_lt (by omega) j.succ_pos, ?_⟩
  rw [Nat.cast_sub hj]
  push_cast; ring

/-- **ordered outward from the centre**: the distances from the nominal path never decrease along the order -/
theorem adjOrder_outward (n : Nat) : ((adjScanOrder n).map fun k => |k|).IsChain (· ≤ ·) := by
  induction n using Nat.twoStepInduction with
  | zero => exact List.isChain_nil
  | one => exact List.isChain_singleton _
  | more n ih _ =>
    rw [adjScanOrder_add_two, List.map_append, List.isChain_append]
    refine ⟨ih, List.isChain_pair.mpr (abs_neg _).ge, fun a ha b hb => ?_⟩
    -- the last of the old ones is `j - (n - 1) / 2` for some `j < n`, within `(n + 1) / 2` of the centre
    obtain ⟨k, hk, rfl⟩ := List.mem_map.mp (List.mem_of_mem_getLast? ha)
    obtain ⟨j, hj, rfl⟩ := (adjOrder_values n k).mp hk
    obtain rfl : |((n : Rat) + 1) / 2| = b := Option.some.inj hb
    have h1 : (j : Rat) + 1 ≤ n := by exact_mod_cast hj
    have h0 : (0 : Rat) ≤ j := Nat.cast_nonneg j
    refine le_trans (abs_le.mpr ⟨?_, ?_⟩) (le_abs_self _) <;> linarith

/-- the first pass is the one closest to the nominal path -/
theorem adjOrder_head (n : Nat) (hn : 0 < n) :
    (adjScanOrder n).head? = some (if n % 2 = 1 then 0 else 1 / 2) := by
  induction n using Nat.twoStepInduction with
  | zero => omega
  | one => simp [adjScanOrder_one]
  | more n ih _ =>
    rw [adjScanOrder_add_two, List.head?_append]
    rcases n with _ | n
    · simp [adjScanOrder_zero]
    · rw [ih (by omega)]; simp [Nat.add_mod]

/-- feed and shutter are untouched by the adjacent-pass shift, the coordinates move by `k·(dx, dy, dz)` -/
theorem shiftPts_spec (m : List Pt) (k dx dy dz : Rat) :
    (shiftPts m k dx dy dz).map (fun p => (p.f, p.s)) = m.map (fun p => (p.f, p.s)) ∧
    (shiftPts m k dx dy dz).map (fun p => (p.x, p.y, p.z)) = m.map (fun p => (p.x + k * dx, p.y + k * dy, p.z + k * dz)) := by
  simp [shiftPts, List.map_map, Function.comp_def]

theorem shiftPts_marks {m : List Pt} {k dx dy dz : Rat} (hs : ∀ p ∈ m, p.s = 0 ∨ p.s = 1) :
    ∀ p ∈ shiftPts m k dx dy dz, p.s = 0 ∨ p.s = 1 :=
  List.forall_mem_map.mpr hs

/-- a count only — one operation per adjacent pass of every waveguide, and `go_init`; which operations, in which order, is
`nasuOps_eq` -/
theorem nasuOps_count (ws : List Nasu) : (nasuOps ws).length = (ws.map (·.adjScan)).sum + 1 := by
  simp only [nasuOps, List.length_append, List.length_flatMap, List.length_map, adjOrder_length, List.length_cons,
    List.length_nil]

/-- the writer files are sessions of the compiler model, so what is proved of sessions (balance C03, dwell accounting C12) applies
to them; here the statement of `C03.session_balanced` at the waveguide operations: the reference controller's parser reads back,
from the flat text, the loop structure the operations built (what a bunch builds: `wg_bunch_compiles`) -/
theorem wg_file_structure (cfg : Cfg) (bunches : List (List WG)) (hh : headerClean cfg.header = true) :
    structure? (flattenStmts (session cfg (wgOps bunches)).1) = some (session cfg (wgOps bunches)).1 :=
  structure?_flattenStmts _ (session_ok cfg _ hh).1

theorem execOp_rep (cfg : Cfg) {n : Int} (hn : 0 < n) (body : List Op) (cs : CS) :
    execOp cfg (.rep n body) cs =
      { out := [Stmt.rep n.toNat (execOps cfg body cs).out, Stmt.atom .blank], pre := (execOps cfg body cs).pre,
        cs := { (execOps cfg body cs).cs with
          dwellTotal := (execOps cfg body cs).cs.dwellTotal + loopIncr n cs.dwellTotal (execOps cfg body cs).cs.dwellTotal },
        err := (execOps cfg body cs).err } := by
  simp only [execOp]
  rw [if_neg (by omega)]

/-- a bunch with a positive scan count compiles to exactly one `REPEAT scan` statement (and a blank line) whose body is what the
members' writes, in order, compile to -/
theorem wg_bunch_compiles (cfg : Cfg) (b : List WG) (w : WG) (rest : List WG) (cs : CS) (hb : b = w :: rest)
    (hs : 0 < w.scan) :
    ∃ body, (execOp cfg (Op.rep w.scan (b.map fun w => Op.write w.pts)) cs).out = [Stmt.rep w.scan.toNat body, Stmt.atom .blank] ∧
      body = (execOps cfg (b.map fun w => Op.write w.pts) cs).out := by
  subst hb
  exact ⟨_, by rw [execOp_rep cfg hs], rfl⟩

def atomsOnly (ss : List Stmt) : Prop := ∀ s ∈ ss, ∃ i, s = Stmt.atom i

theorem atomsOnly_emit (is : List Instr) : atomsOnly (emit is) := by
  intro s hs; simp only [emit, List.mem_map] at hs; obtain ⟨i, _, rfl⟩ := hs; exact ⟨i, rfl⟩

theorem atomsOnly_append {a b : List Stmt} (ha : atomsOnly a) (hb : atomsOnly b) : atomsOnly (a ++ b) := by
  intro s hs; rcases List.mem_append.mp hs with h | h
  · exact ha s h
  · exact hb s h

theorem atomsOnly_nil : atomsOnly [] := by intro s hs; simp at hs

/-- C01 is stated for `execFlat`; loop bodies are run by `execStmts` -/
theorem execStmts_atoms (ss : List Stmt) (h : atomsOnly ss) (σ : St) :
    execStmts ss σ = execFlat (flattenStmts ss) σ := by
  induction ss generalizing σ with
  | nil => simp [execStmts, flattenStmts, execFlat]
  | cons s ss ih =>
    obtain ⟨i, rfl⟩ := h s (by simp)
    rw [execStmts, ih (fun t ht => h t (by simp [ht]))]
    simp [flattenStmts, flattenStmt, execFlat, execStmt]

theorem atomsOnly_of_emits {p : Instr → Bool} {cs : CS} {o : Out} (h : Emits p cs o) : atomsOnly o.1 :=
  h.flat ▸ atomsOnly_emit _

theorem write_atoms (cfg : Cfg) (m : List Pt) (cs : CS) (o : Out) (hw : write cfg m cs = .ok o) : atomsOnly o.1 :=
  atomsOnly_of_emits (write_emits hw)

/-- what makes a loop body, compiled once under the belief "shutter closed", right for every turn -/
def endsClosed (m : List Pt) : Prop := ∀ p, m.getLast? = some p → p.s = 0

theorem shiftPts_endsClosed {m : List Pt} {k dx dy dz : Rat} (hc : endsClosed m) : endsClosed (shiftPts m k dx dy dz) := by
  intro p hp
  rw [shiftPts, List.getLast?_map] at hp
  obtain ⟨q, hq, rfl⟩ := Option.map_eq_some_iff.mp hp
  exact hc q hq

theorem execStmts_append (a b : List Stmt) (σ : St) :
    execStmts (a ++ b) σ = ((execStmts b (execStmts a σ).1).1, (execStmts a σ).2 ++ (execStmts b (execStmts a σ).1).2) := by
  induction a generalizing σ with
  | nil => simp [execStmts]
  | cons s a ih => simp only [List.cons_append, execStmts, ih, List.append_assoc]

theorem execStmts_flat {ss : List Stmt} (h : atomsOnly ss) : execStmts ss = execFlat (flattenStmts ss) :=
  funext (execStmts_atoms ss h)

theorem Triple.stmts_append {a b : List Stmt} {p p₁ p₂ : Pos} {s s₁ s₂ : Bool} {m₁ m₂ : List Move}
    (ha : Triple (execStmts a) p s m₁ p₁ s₁) (hb : Triple (execStmts b) p₁ s₁ m₂ p₂ s₂) :
    Triple (execStmts (a ++ b)) p s (m₁ ++ m₂) p₂ s₂ := by
  intro σ; rw [execStmts_append]; exact ha.seq hb σ

theorem Closed.stmts_append {a b : List Stmt} (ha : Closed (execStmts a)) (hb : Closed (execStmts b)) :
    Closed (execStmts (a ++ b)) := by
  intro σ; rw [execStmts_append]; exact ha.seq hb σ

def IsPass (body : List Stmt) (wss : List (List (G1W × Rat))) : Prop :=
  ∀ σ : St, σ.absMode = true → σ.shutter = false →
    movesOf (execStmts body σ).2 = passFrom σ.pos wss ∧ (execStmts body σ).1.pos = passEnd σ.pos wss ∧
      (execStmts body σ).1.absMode = true ∧ (execStmts body σ).1.shutter = false

/-- **`REPEAT n` performs the pass `n` times** (`scansFrom`): the first turn from wherever the machine was, the others from the
end of the path -/
theorem execRep_scans (body : List Stmt) (wss : List (List (G1W × Rat))) (hb : IsPass body wss) (n : Nat) :
    ∀ σ : St, σ.absMode = true → σ.shutter = false →
      movesOf (execRep n body σ).2 = scansFrom σ.pos wss n ∧ (execRep n body σ).1.pos = scansEnd σ.pos wss n ∧
        (execRep n body σ).1.absMode = true ∧ (execRep n body σ).1.shutter = false := by
  induction n with
  | zero => intro σ habs hsh; rw [execRep]; exact ⟨rfl, rfl, habs, hsh⟩
  | succ k ih =>
    intro σ habs hsh
    obtain ⟨b1, b2, b3, b4⟩ := hb σ habs hsh
    obtain ⟨r1, r2, r3, r4⟩ := ih (execStmts body σ).1 b3 b4
    rw [execRep]
    simp only [movesOf_append, b1, r1, b2, r2, r3, r4, scansFrom, scansEnd, and_self]

/-- what the writers' operations make the machine do, compositionally: compiler and controller both enter and leave with the
shutter closed.  `passFrom`, `scansFrom` and `groupsFrom` are what the rules `cons`, `rep` and `cons` again compute. -/
def Performs (c : CS → Res) (M : Pos → List Move) (E : Pos → Pos) : Prop :=
  ∀ cs : CS, cs.shutterOn = false →
    (c cs).err = none ∧ (c cs).pre = [] ∧ (c cs).cs.shutterOn = false ∧
      ∀ p, Triple (execStmts (c cs).out) p false (M p) (E p) false

theorem Performs.nil (cfg : Cfg) : Performs (execOps cfg []) (fun _ => []) (fun p => p) :=
  fun _ hcs => ⟨rfl, rfl, hcs, fun _ => execStmts_flat atomsOnly_nil ▸ Triple.nil⟩

theorem Performs.cons {cfg : Cfg} {op : Op} {ops : List Op} {M₁ M₂ : Pos → List Move} {E₁ E₂ : Pos → Pos}
    (h₁ : Performs (execOp cfg op) M₁ E₁) (h₂ : Performs (execOps cfg ops) M₂ E₂) :
    Performs (execOps cfg (op :: ops)) (fun p => M₁ p ++ M₂ (E₁ p)) (fun p => E₂ (E₁ p)) := by
  intro cs hcs
  obtain ⟨a1, a2, a3, a4⟩ := h₁ cs hcs
  obtain ⟨b1, b2, b3, b4⟩ := h₂ _ a3
  simp only [execOps, a1]
  exact ⟨b1, by rw [a2, b2]; rfl, b3, fun p => Triple.stmts_append (a4 p) (b4 _)⟩

theorem Performs.write {cfg : Cfg} {m : List Pt} {ws : List (G1W × Rat)} (hp : printed cfg m = .ok ws)
    (hs : ∀ p ∈ m, p.s = 0 ∨ p.s = 1) (hc : endsClosed m) :
    Performs (execOp cfg (.write m)) (fun p => expectedFrom p ws) (fun p => lastPos p ws) := by
  intro cs hcs
  have hw := Femto.C01.write_of_printed hp cs
  have f3 := Femto.C01.write_ends_closed hw hs hc hcs
  have t := Femto.C01.write_run cfg m cs _ ws hw hp hs
  rw [f3, hcs] at t
  simp only [execOp, hw, Res.ofOut]
  exact ⟨trivial, trivial, f3, fun p => execStmts_flat (write_atoms cfg m cs _ hw) ▸ t p⟩

theorem comment_quiet (b : Bool) (cs : CS) :
    (∀ i ∈ flattenStmts (comment b cs).1, quiet i = true) ∧ atomsOnly (comment b cs).1 ∧ (comment b cs).2 = cs :=
  have h := comment_emits (p := quiet) rfl (fun _ => rfl) b cs
  ⟨h.all, atomsOnly_of_emits h, by unfold comment; split <;> rfl⟩

theorem Performs.comment (cfg : Cfg) (b : Bool) : Performs (execOp cfg (.comment b)) (fun _ => []) (fun p => p) := by
  intro cs hcs
  obtain ⟨q, a, e⟩ := comment_quiet b cs
  exact ⟨rfl, rfl, by simpa [execOp, Res.ofOut, e] using hcs, fun p => execStmts_flat a ▸ Triple.quiet q p false⟩

theorem Performs.rep {cfg : Cfg} {body : List Op} {wss : List (List (G1W × Rat))} {n : Int} (hn : 0 < n)
    (h : Performs (execOps cfg body) (fun p => passFrom p wss) (fun p => passEnd p wss)) :
    Performs (execOp cfg (.rep n body)) (fun p => scansFrom p wss n.toNat) (fun p => scansEnd p wss n.toNat) := by
  intro cs hcs
  obtain ⟨a1, a2, a3, a4⟩ := h cs hcs
  rw [execOp_rep cfg hn]
  refine ⟨a1, a2, a3, fun p σ hp habs hsh => ?_⟩
  obtain ⟨s1, s2, s3, s4⟩ := execRep_scans _ wss (fun σ' ha' hs' => a4 σ'.pos σ' rfl ha' hs') n.toNat σ habs hsh
  subst hp
  -- the `REPEAT` statement is `execRep`; the blank line after it does nothing
  simp [execStmts, execStmt, step, s1, s2, s3, s4]

theorem Performs.writes {cfg : Cfg} {ms : List (List Pt)} {wss : List (List (G1W × Rat))}
    (hp : List.Forall₂ (fun m ws => printed cfg m = .ok ws) ms wss)
    (hs : ∀ m ∈ ms, ∀ p ∈ m, p.s = 0 ∨ p.s = 1) (hc : ∀ m ∈ ms, endsClosed m) :
    Performs (execOps cfg (ms.map Op.write)) (fun p => passFrom p wss) (fun p => passEnd p wss) := by
  induction hp with
  | nil => exact Performs.nil cfg
  | cons hmw _ ih =>
    exact (Performs.write hmw (hs _ (by simp)) (hc _ (by simp))).cons
      (ih (fun m' hm' => hs m' (by simp [hm'])) (fun m' hm' => hc m' (by simp [hm'])))

theorem execOps_writes_atoms (cfg : Cfg) (ms : List (List Pt)) (cs : CS) : atomsOnly (execOps cfg (ms.map Op.write) cs).out := by
  induction ms generalizing cs with
  | nil => exact atomsOnly_nil
  | cons m ms ih =>
    simp only [List.map_cons, execOps, execOp]
    cases hw : write cfg m cs with
    | error e => exact atomsOnly_nil
    | ok o => exact atomsOnly_append (write_atoms cfg m cs o hw) (ih _)

/-- **one pass**: the writes of a group of closed paths, compiled one after the other from a closed-shutter state, perform
`passFrom` — every member replayed point for point (C01), in order, each from where the previous one ended — and leave both
sides closed -/
theorem writes_pass (cfg : Cfg) (ms : List (List Pt)) (wss : List (List (G1W × Rat)))
    (hp : List.Forall₂ (fun m ws => printed cfg m = .ok ws) ms wss)
    (hs : ∀ m ∈ ms, ∀ p ∈ m, p.s = 0 ∨ p.s = 1) (hc : ∀ m ∈ ms, endsClosed m) :
    ∀ (cs : CS) (σ : St), cs.shutterOn = false → σ.absMode = true → σ.shutter = false →
      let r := execOps cfg (ms.map Op.write) cs
      r.err = none ∧ r.pre = [] ∧ atomsOnly r.out ∧ r.cs.shutterOn = false ∧
        movesOf (execFlat (flattenStmts r.out) σ).2 = passFrom σ.pos wss ∧
        (execFlat (flattenStmts r.out) σ).1.pos = passEnd σ.pos wss ∧
        (execFlat (flattenStmts r.out) σ).1.absMode = true ∧ (execFlat (flattenStmts r.out) σ).1.shutter = false := by
  intro cs σ hcs habs hsh
  obtain ⟨a1, a2, a3, a4⟩ := Performs.writes hp hs hc cs hcs
  have hat := execOps_writes_atoms cfg ms cs
  exact ⟨a1, a2, hat, a3, execStmts_atoms _ hat σ ▸ a4 σ.pos σ rfl habs hsh⟩

/-- **C08, a group of waveguides.** `with G.repeat(n): for wg in group: G.write(wg.points)` for closed paths that `write`
accepts and `n ≥ 1`, compiled from a closed-shutter state: no error, exactly one `REPEAT n` statement, and the reference
controller — from any state in absolute mode with the shutter closed — performs `scansFrom`: the whole group, member by member
and point for point, exactly `n` times. -/
theorem group_scans_replayed (cfg : Cfg) (ms : List (List Pt)) (wss : List (List (G1W × Rat))) (n : Int) (hn : 0 < n)
    (hp : List.Forall₂ (fun m ws => printed cfg m = .ok ws) ms wss)
    (hs : ∀ m ∈ ms, ∀ p ∈ m, p.s = 0 ∨ p.s = 1) (hc : ∀ m ∈ ms, endsClosed m)
    (cs : CS) (σ : St) (hcs : cs.shutterOn = false) (habs : σ.absMode = true) (hsh : σ.shutter = false) :
    let r := execOp cfg (Op.rep n (ms.map Op.write)) cs
    r.err = none ∧ r.pre = [] ∧ r.cs.shutterOn = false ∧ (∃ body, r.out = [Stmt.rep n.toNat body, Stmt.atom .blank]) ∧
      movesOf (execStmts r.out σ).2 = scansFrom σ.pos wss n.toNat ∧ (execStmts r.out σ).1.pos = scansEnd σ.pos wss n.toNat ∧
      (execStmts r.out σ).1.absMode = true ∧ (execStmts r.out σ).1.shutter = false := by
  obtain ⟨a1, a2, a3, a4⟩ := (Performs.writes hp hs hc).rep hn cs hcs
  exact ⟨a1, a2, a3, ⟨_, by rw [execOp_rep cfg hn]⟩, a4 σ.pos σ rfl habs hsh⟩

/-- `WaveguideWriter.pgm` before the final `go_init` -/
def bunchOps (bunches : List (List WG)) : List Op :=
  bunches.map fun b => Op.rep (match b with | w :: _ => w.scan | [] => 0) (b.map fun w => Op.write w.pts)

theorem wgOps_eq (bunches : List (List WG)) : wgOps bunches = bunchOps bunches ++ [Op.goInit] := rfl

/-- a group the writer can compile, with its printed matrices and its scan count (that of its first member, as in `pgm`) -/
def GroupOK (cfg : Cfg) (b : List WG) (g : List (List (G1W × Rat)) × Nat) : Prop :=
  (∃ w rest, b = w :: rest ∧ w.scan = (g.2 : Int) ∧ 0 < g.2) ∧
    List.Forall₂ (fun m ws => printed cfg m = .ok ws) (b.map (·.pts)) g.1 ∧
    (∀ m ∈ b.map (·.pts), ∀ p ∈ m, p.s = 0 ∨ p.s = 1) ∧ (∀ m ∈ b.map (·.pts), endsClosed m)

def groupsEnd (prev : Pos) : List (List (List (G1W × Rat)) × Nat) → Pos
  | [] => prev
  | (wss, n) :: rest => groupsEnd (scansEnd prev wss n) rest

theorem Performs.groups {cfg : Cfg} {α : Type} (scan : α → Int) (body : α → List Op) {l : List α}
    {specs : List (List (List (G1W × Rat)) × Nat)}
    (h : List.Forall₂ (fun a g => scan a = (g.2 : Int) ∧ 0 < g.2 ∧
      Performs (execOps cfg (body a)) (fun p => passFrom p g.1) (fun p => passEnd p g.1)) l specs) :
    Performs (execOps cfg (l.map fun a => Op.rep (scan a) (body a))) (fun p => groupsFrom p specs) (fun p => groupsEnd p specs) := by
  induction h with
  | nil => exact Performs.nil cfg
  | @cons a g _ _ hg _ ih =>
    obtain ⟨wss, n⟩ := g
    obtain ⟨hscan, hpos, hb⟩ := hg
    have hn : (scan a).toNat = n := by simp only at hscan; omega
    exact hn ▸ (hb.rep (n := scan a) (by simp only at hscan; omega)).cons ih

/-- `Performs` without the end position, on states: what `file_replayed` asks of the structure part -/
def BodyMoves (cfg : Cfg) (body : List Op) (M : Pos → List Move) : Prop :=
  ∀ (cs : CS) (σ : St), cs.shutterOn = false → σ.absMode = true → σ.shutter = false →
    (execOps cfg body cs).err = none ∧ (execOps cfg body cs).pre = [] ∧ (execOps cfg body cs).cs.shutterOn = false ∧
      movesOf (execStmts (execOps cfg body cs).out σ).2 = M σ.pos ∧
      (execStmts (execOps cfg body cs).out σ).1.absMode = true ∧ (execStmts (execOps cfg body cs).out σ).1.shutter = false

theorem Performs.bodyMoves {cfg : Cfg} {body : List Op} {M : Pos → List Move} {E : Pos → Pos}
    (h : Performs (execOps cfg body) M E) : BodyMoves cfg body M := by
  intro cs σ hcs habs hsh
  obtain ⟨a1, a2, a3, a4⟩ := h cs hcs
  obtain ⟨b1, _, b3, b4⟩ := a4 σ.pos σ rfl habs hsh
  exact ⟨a1, a2, a3, b1, b3, b4⟩

/-- **C08, the groups of the waveguide file.** The operations of `WaveguideWriter.pgm` before the final `go_init`, for any list of
compilable groups: the reference controller performs `groupsFrom` — group after group, each written exactly its number of scans
times, every scan replaying every member point for point — and nothing else. -/
theorem wg_groups_replayed (cfg : Cfg) (bunches : List (List WG)) (specs : List (List (List (G1W × Rat)) × Nat))
    (h : List.Forall₂ (GroupOK cfg) bunches specs) :
    ∀ (cs : CS) (σ : St), cs.shutterOn = false → σ.absMode = true → σ.shutter = false →
      let r := execOps cfg (bunchOps bunches) cs
      r.err = none ∧ r.pre = [] ∧ r.cs.shutterOn = false ∧ movesOf (execStmts r.out σ).2 = groupsFrom σ.pos specs ∧
        (execStmts r.out σ).1.absMode = true ∧ (execStmts r.out σ).1.shutter = false := by
  refine (Performs.groups (fun b : List WG => match b with | w :: _ => w.scan | [] => 0) (fun b => b.map fun w => Op.write w.pts)
    (h.imp fun b g hg => ?_)).bodyMoves
  obtain ⟨⟨w, rest, rfl, hscan, hpos⟩, hp, hs, hc⟩ := hg
  exact ⟨hscan, hpos, by simpa [List.map_map, Function.comp_def] using Performs.writes hp hs hc⟩

/-- **C08, Nasu waveguides.** One Nasu waveguide with `adj_scan = n`: the writer compiles `n` writes (`adjOrder_length`), the
`k`-th being the path shifted by `adjScanOrder n [k]` times the shift vector (`shiftPts_spec`: feed and shutter untouched), and
the controller replays each of them point for point, in that order, each pass starting where the previous one ended. -/
theorem nasu_passes_replayed (cfg : Cfg) (w : Nasu) (wss : List (List (G1W × Rat)))
    (hp : List.Forall₂ (fun m ws => printed cfg m = .ok ws)
      ((adjScanOrder w.adjScan).map fun k => shiftPts w.pts k w.dx w.dy w.dz) wss)
    (hs : ∀ p ∈ w.pts, p.s = 0 ∨ p.s = 1) (hc : endsClosed w.pts)
    (cs : CS) (σ : St) (hcs : cs.shutterOn = false) (habs : σ.absMode = true) (hsh : σ.shutter = false) :
    let r := execOps cfg ((adjScanOrder w.adjScan).map fun k => Op.write (shiftPts w.pts k w.dx w.dy w.dz)) cs
    wss.length = w.adjScan ∧ r.err = none ∧ r.cs.shutterOn = false ∧
      movesOf (execStmts r.out σ).2 = passFrom σ.pos wss ∧ (execStmts r.out σ).1.shutter = false := by
  -- every shifted copy is a closed 0 / 1 path like the original
  obtain ⟨a1, _, a3, a4⟩ := Performs.writes hp (List.forall_mem_map.mpr fun _ _ => shiftPts_marks hs)
    (List.forall_mem_map.mpr fun _ _ => shiftPts_endsClosed hc) cs hcs
  obtain ⟨b1, _, _, b4⟩ := a4 σ.pos σ rfl habs hsh
  rw [List.map_map] at a1 a3 b1 b4
  exact ⟨by rw [← hp.length_eq, List.length_map, adjOrder_length], a1, a3, b1, b4⟩

theorem Performs.marker {cfg : Cfg} {m : List Pt} {ws : List (G1W × Rat)} (hp : printed cfg m = .ok ws)
    (hs : ∀ p ∈ m, p.s = 0 ∨ p.s = 1) (hc : endsClosed m) :
    Performs (execOps cfg [Op.comment true, Op.write m, Op.comment false]) (fun p => passFrom p [ws]) (fun p => passEnd p [ws]) :=
  (Performs.comment cfg true).cons ((Performs.write hp hs hc).cons ((Performs.comment cfg false).cons (Performs.nil cfg)))

/-- **C08, a marker.** `with G.repeat(n): G.comment(..); G.write(mk.points); G.comment('')` for a closed figure that `write`
accepts and `n ≥ 1`: the controller performs the figure, point for point, exactly `n` times -/
theorem mk_scans_replayed (cfg : Cfg) (m : List Pt) (ws : List (G1W × Rat)) (n : Int) (hn : 0 < n)
    (hp : printed cfg m = .ok ws) (hs : ∀ p ∈ m, p.s = 0 ∨ p.s = 1) (hc : endsClosed m)
    (cs : CS) (σ : St) (hcs : cs.shutterOn = false) (habs : σ.absMode = true) (hsh : σ.shutter = false) :
    let r := execOp cfg (Op.rep n [Op.comment true, Op.write m, Op.comment false]) cs
    r.err = none ∧ r.cs.shutterOn = false ∧
      movesOf (execStmts r.out σ).2 = scansFrom σ.pos [ws] n.toNat ∧ (execStmts r.out σ).1.pos = scansEnd σ.pos [ws] n.toNat ∧
      (execStmts r.out σ).1.absMode = true ∧ (execStmts r.out σ).1.shutter = false := by
  obtain ⟨a1, _, a3, a4⟩ := (Performs.marker hp hs hc).rep hn cs hcs
  exact ⟨a1, a3, a4 σ.pos σ rfl habs hsh⟩

/-- the arguments of one `linear(…)`: target / increment (entries may be `None`), mode, shutter 0 / 1, optional speed -/
structure Seg where
  dx : Option Rat
  dy : Option Rat
  dz : Option Rat
  abs : Bool
  opened : Bool
  speed : Option Rat

def runSegs (a : Attrs) : List Seg → Traj → Except PErr Traj
  | [], t => .ok t
  | s :: ss, t => match linear a s.dx s.dy s.dz s.abs (if s.opened then 1 else 0) s.speed t with
    | .ok t' => runSegs a ss t'
    | .error e => .error e

/-- `start(p); linear(…) …; end()` on a fresh path -/
def build (a : Attrs) (x y z : Rat) (sp : Option Rat) (segs : List Seg) : Except PErr Traj :=
  match start a x y z sp [] with
  | .ok t => match runSegs a segs t with
    | .ok t' => finish a t'
    | .error e => .error e
  | .error e => .error e

def toPt (r : Row Rat) : Pt := ⟨r.x, r.y, r.z, r.f, r.s⟩

def ChainOK (t : Traj) : Prop := (∃ h rest, t = h :: rest ∧ h.s = 0) ∧ ∀ r ∈ t, r.s = 0 ∨ r.s = 1

/-- covers the curved primitives, which are not in `Model/Path`: each appends its samples through `add_path` with the shutter value
of the call -/
theorem append_chainOK (t : Traj) (rs : List (Row Rat)) (h : ChainOK t) (hr : ∀ r ∈ rs, r.s = 0 ∨ r.s = 1) : ChainOK (t ++ rs) := by
  obtain ⟨⟨h0, rest, rfl, hs0⟩, hm⟩ := h
  refine ⟨⟨h0, rest ++ rs, by simp, hs0⟩, ?_⟩
  intro r hr'
  rcases List.mem_append.mp hr' with h1 | h1
  · exact hm r h1
  · exact hr r h1

theorem linear_chainOK {a : Attrs} {dx dy dz sp : Option Rat} {abs : Bool} {s : Rat} {t t' : Traj} (h : ChainOK t)
    (hs : s = 0 ∨ s = 1) (hl : linear a dx dy dz abs s sp t = .ok t') : ChainOK t' := by
  obtain ⟨r, rfl, hr⟩ := linear_ok_inv hl
  exact append_chainOK t [r] h (List.forall_mem_singleton.mpr (hr ▸ hs))

theorem runSegs_chainOK {a : Attrs} {segs : List Seg} {t t' : Traj} (h : ChainOK t) (hr : runSegs a segs t = .ok t') :
    ChainOK t' := by
  induction segs generalizing t with
  | nil => cases hr; exact h
  | cons s ss ih =>
    rw [runSegs] at hr
    split at hr
    · rename_i t1 hl
      exact ih (linear_chainOK h (by cases s.opened; exacts [Or.inl rfl, Or.inr rfl]) hl) hr
    · cases hr

/-- the filter behind `points` keeps the first and the last row and adds none (C11) -/
theorem chain_points (t : Traj) (h : ChainOK t) (l : Row Rat) (hl : t.getLast? = some l) (hl0 : l.s = 0) :
    let m := (points t).map toPt
    m ≠ [] ∧ (∀ p ∈ m, p.s = 0 ∨ p.s = 1) ∧ (∃ p, m.head? = some p ∧ p.s = 0) ∧ (∃ p, m.getLast? = some p ∧ p.s = 0) := by
  obtain ⟨⟨h0, rest, rfl, hs0⟩, hm⟩ := h
  intro m
  have hhead : m.head? = some (toPt h0) := by simp only [m, points, List.head?_map, C11.uf_head?]; rfl
  have hlast : m.getLast? = some (toPt l) := by simp only [m, points, List.getLast?_map, Femto.C11.uf_getLast?, hl]; rfl
  refine ⟨fun he => (by rw [he] at hhead; cases hhead), fun p hp => ?_, ⟨_, hhead, hs0⟩, ⟨_, hlast, hl0⟩⟩
  obtain ⟨r, hr, rfl⟩ := List.mem_map.mp hp
  exact hm r ((Femto.C11.uf_sublist _).subset hr)

/-- **`end()` closes whatever chain it is given**, however it was built (`append_chainOK`) -/
theorem finish_closed (a : Attrs) (t t' : Traj) (h : ChainOK t) (hf : finish a t = .ok t') :
    let m := (points t').map toPt
    m ≠ [] ∧ (∀ p ∈ m, p.s = 0 ∨ p.s = 1) ∧ (∃ p, m.head? = some p ∧ p.s = 0) ∧ (∃ p, m.getLast? = some p ∧ p.s = 0) := by
  obtain ⟨r₁, r₂, rfl, h1, h2⟩ := finish_ok_inv hf
  refine chain_points _ (append_chainOK t _ h fun r hr => ?_) r₂ (by simp) h2
  rcases List.mem_pair.mp hr with rfl | rfl
  · exact Or.inl h1
  · exact Or.inl h2

/-- **what the builders hand to the writers.** Every path built by `start`, any number of straight segments (absolute or
incremental, entries left out, shutter open or closed, any speeds) and `end` reports a point matrix that is non-empty, starts
with the shutter closed, carries only the marks 0 / 1 and ends with the shutter closed — the hypotheses of `write_replays`
(C01: marks; first point reached closed) and of `group_scans_replayed` / `wg_file_replayed` (`endsClosed`). -/
theorem built_closed (a : Attrs) (x y z : Rat) (sp : Option Rat) (segs : List Seg) (t : Traj)
    (hb : build a x y z sp segs = .ok t) :
    let m := (points t).map toPt
    m ≠ [] ∧ (∀ p ∈ m, p.s = 0 ∨ p.s = 1) ∧ (∃ p, m.head? = some p ∧ p.s = 0) ∧ (∃ p, m.getLast? = some p ∧ p.s = 0) := by
  rw [build, start_fresh] at hb
  simp only at hb
  have h0 : ChainOK [⟨x, y, z, sp.getD a.speedPos, 0⟩, (⟨x, y, z, sp.getD a.speedPos, 1⟩ : Row Rat)] :=
    ⟨⟨_, _, rfl, rfl⟩, fun r hr => by rcases List.mem_pair.mp hr with rfl | rfl <;> simp⟩
  split at hb
  · rename_i t1 hr
    exact finish_closed a t1 t (runSegs_chainOK h0 hr) hb
  · cases hb

/-- the hypotheses of `group_scans_replayed` on the members of a group hold for every path `build` produces -/
theorem built_group_hyps (a : Attrs) (x y z : Rat) (sp : Option Rat) (segs : List Seg) (t : Traj)
    (hb : build a x y z sp segs = .ok t) :
    (∀ p ∈ (points t).map toPt, p.s = 0 ∨ p.s = 1) ∧ endsClosed ((points t).map toPt) := by
  obtain ⟨_, h2, _, ⟨p, h4, h5⟩⟩ := built_closed a x y z sp segs t hb
  exact ⟨h2, fun q hq => by rw [h4] at hq; cases hq; exact h5⟩

theorem execOps_append_ok (cfg : Cfg) (a b : List Op) (cs : CS) (h : (execOps cfg a cs).err = none) :
    execOps cfg (a ++ b) cs =
      { out := (execOps cfg a cs).out ++ (execOps cfg b (execOps cfg a cs).cs).out,
        pre := (execOps cfg b (execOps cfg a cs).cs).pre ++ (execOps cfg a cs).pre,
        cs := (execOps cfg b (execOps cfg a cs).cs).cs, err := (execOps cfg b (execOps cfg a cs).cs).err } := by
  rw [execOps_append, andThen_of_ok _ h]

theorem execOps_singleton (cfg : Cfg) (op : Op) (cs : CS) : execOps cfg [op] cs = execOp cfg op cs := by
  rw [execOps_cons, Res.andThen]
  split
  · rfl
  · rename_i h
    simp only [execOps, List.append_nil, List.nil_append, ← h]

def headerStill (h : List Instr) : Bool :=
  let r := execFlat h {}
  r.1.absMode && !r.1.shutter && (movesOf r.2).isEmpty && decide (r.1.pos = {})

/-- the four shipped headers (`Gen/Data.lean`, generated from `/repo`) are still -/
theorem shipped_headers_still : ∀ h ∈ Femto.Gen.headers, headerStill h.2.2 = true := by decide +kernel

theorem moveTo_run (cfg : Cfg) (x y z sp : Option Rat) (cs : CS) (σ : St) (hcs : cs.shutterOn = false) (hsh : σ.shutter = false) :
    atomsOnly (moveTo cfg x y z sp cs).1.1 ∧ (moveTo cfg x y z sp cs).1.2.shutterOn = false ∧
      (∀ m ∈ movesOf (execFlat (flattenStmts (moveTo cfg x y z sp cs).1.1) σ).2, m.shutter = false) ∧
      (execFlat (flattenStmts (moveTo cfg x y z sp cs).1.1) σ).1.shutter = false := by
  obtain ⟨h1, h2, h3⟩ := moveTo_exec cfg x y z sp cs σ (by rw [hsh, hcs])
  exact ⟨atomsOnly_of_emits (moveTo_plain cfg x y z sp cs), h3, h1, h2⟩

/-- `move_to` compiled under the belief "shutter closed": the belief stays, and the controller keeps the shutter closed -/
theorem moveTo_staysClosed (cfg : Cfg) (x y z sp : Option Rat) (cs : CS) (hcs : cs.shutterOn = false) :
    atomsOnly (moveTo cfg x y z sp cs).1.1 ∧ (moveTo cfg x y z sp cs).1.2.shutterOn = false ∧
      Closed (execStmts (moveTo cfg x y z sp cs).1.1) :=
  have h := moveTo_run cfg x y z sp cs
  ⟨(h {} hcs rfl).1, (h {} hcs rfl).2.1, execStmts_flat (h {} hcs rfl).1 ▸ fun σ hsh => (h σ hcs hsh).2.2⟩

/-- the positioning operation that ends a writer program, `go_init` (waveguides, Nasu) or `go_origin` (markers), keeps the
shutter closed on both sides -/
theorem lastOp_closed (cfg : Cfg) (last : Op) (hl : last = .goInit ∨ last = .goOrigin) (cs : CS) (hcs : cs.shutterOn = false) :
    atomsOnly (execOp cfg last cs).out ∧ (execOp cfg last cs).pre = [] ∧ (execOp cfg last cs).cs.shutterOn = false ∧
      Closed (execStmts (execOp cfg last cs).out) := by
  rcases hl with rfl | rfl
  · obtain ⟨m1, m2, m3⟩ := moveTo_staysClosed cfg (some (-2)) (some 0) (some 0) none cs hcs
    exact ⟨m1, rfl, m2, m3⟩
  · obtain ⟨qa, aa, ea⟩ := comment_quiet true cs
    obtain ⟨m1, m2, m3⟩ := moveTo_staysClosed cfg (some 0) (some 0) (some 0) none cs hcs
    have hc : Closed (execStmts (comment true cs).1) :=
      execStmts_flat aa ▸ execFlat_closed _ fun i hi a e => by subst e; cases qa _ hi
    simp only [execOp, Res.andThen, Res.ofOut, ea]
    exact ⟨atomsOnly_append aa m1, rfl, m2, Closed.stmts_append hc m3⟩

theorem lastOp_run (cfg : Cfg) (last : Op) (hl : last = .goInit ∨ last = .goOrigin) (cs : CS) (σ : St)
    (hcs : cs.shutterOn = false) (hsh : σ.shutter = false) :
    atomsOnly (execOp cfg last cs).out ∧ (execOp cfg last cs).pre = [] ∧ (execOp cfg last cs).cs.shutterOn = false ∧
      (∀ m ∈ movesOf (execStmts (execOp cfg last cs).out σ).2, m.shutter = false) ∧
      (execStmts (execOp cfg last cs).out σ).1.shutter = false :=
  have ⟨a, b, c, d⟩ := lastOp_closed cfg last hl cs hcs
  ⟨a, b, c, d σ hsh⟩

/-- `__exit__` without a session-wide rotation: at most the homing move -/
theorem sessionTail_closed {cfg : Cfg} (hrot : cfg.aeroAngle = 0) (cs : CS) (hcs : cs.shutterOn = false) :
    Closed (execStmts (sessionTail cfg cs).1) := by
  simp only [sessionTail, hrot, if_true, seq, List.nil_append]
  split
  · exact (moveTo_staysClosed cfg _ _ _ _ cs hcs).2.2
  · exact execStmts_flat atomsOnly_nil ▸ execFlat_closed [] fun _ h => (List.not_mem_nil h).elim

/-- the head of every session (`__enter__` without a session-wide rotation), on a still header: no motion, the position still
unknown (`{}`) -/
theorem head_run (cfg : Cfg) (hh : headerStill cfg.header = true) :
    movesOf (execStmts (sessionHead cfg).1 {}).2 = [] ∧ (execStmts (sessionHead cfg).1 {}).1.pos = {} ∧
      (execStmts (sessionHead cfg).1 {}).1.absMode = true ∧ (execStmts (sessionHead cfg).1 {}).1.shutter = false := by
  simp only [headerStill, Bool.and_eq_true, Bool.not_eq_true', List.isEmpty_iff, decide_eq_true_eq] at hh
  obtain ⟨⟨⟨h1, h2⟩, h3⟩, h4⟩ := hh
  have t := Triple.quiet (is := [.blank, .dwell (rabs 1), .blank]) (by decide) {} false (execFlat cfg.header {}).1 h4 h1 h2
  rw [sessionHead_eq, execStmts_atoms _ (atomsOnly_emit _), flattenStmts_emit, execFlat_append, movesOf_append, h3]
  exact t

/-- **a whole writer file**: header, `DWELL`, the structures, the final positioning operation, the optional homing move. If the
structure part performs `M` (from the position it is entered at), the file performs `M {}` from the unknown start position, and
every other move of the program is made with the shutter closed; the program ends with the shutter closed. -/
theorem file_replayed (cfg : Cfg) (body : List Op) (last : Op) (M : Pos → List Move) (hl : last = .goInit ∨ last = .goOrigin)
    (hrot : cfg.aeroAngle = 0) (hh : headerStill cfg.header = true) (hb : BodyMoves cfg body M) :
    ∃ tail, movesOf (execStmts (session cfg (body ++ [last])).1 {}).2 = M {} ++ tail ∧
      (∀ m ∈ tail, m.shutter = false) ∧ (execStmts (session cfg (body ++ [last])).1 {}).1.shutter = false := by
  obtain ⟨d3, d4, d5, d6⟩ := head_run cfg hh
  obtain ⟨g1, g2, g3, g4, -, g6⟩ := hb (sessionHead cfg).2 (execStmts (sessionHead cfg).1 {}).1 (by rw [sessionHead_eq]) d5 d6
  obtain ⟨-, l2, l3, l4⟩ := lastOp_closed cfg last hl _ g3
  -- after the structures: the last operation and the optional homing move, both made with the shutter closed
  obtain ⟨t1, t2⟩ := Closed.stmts_append l4 (sessionTail_closed hrot _ l3) _ g6
  rw [show session cfg (body ++ [last]) = _ from sessionWith_noRot hrot _, execOps_append_ok cfg body [last] _ g1,
    execOps_singleton]
  simp only [g2, l2, List.nil_append, List.append_assoc]
  rw [execStmts_append, execStmts_append, movesOf_append, movesOf_append, d3, g4, d4]
  exact ⟨_, rfl, t1, t2⟩

/-- **C08, the whole waveguide file.** For every configuration without a session-wide rotation whose header is still (the
shipped ones are: `shipped_headers_still`) and every list of compilable groups, the reference controller running the file
`WaveguideWriter.pgm` writes performs `groupsFrom` from the unknown start position: every group exactly its number of scans
times, every scan every member point for point; whatever moves follow are made with the shutter closed, and the program ends
with the shutter closed. -/
theorem wg_file_replayed (cfg : Cfg) (bunches : List (List WG)) (specs : List (List (List (G1W × Rat)) × Nat))
    (hrot : cfg.aeroAngle = 0) (hh : headerStill cfg.header = true) (h : List.Forall₂ (GroupOK cfg) bunches specs) :
    ∃ tail, movesOf (execStmts (session cfg (wgOps bunches)).1 {}).2 = groupsFrom {} specs ++ tail ∧
      (∀ m ∈ tail, m.shutter = false) ∧ (execStmts (session cfg (wgOps bunches)).1 {}).1.shutter = false :=
  wgOps_eq bunches ▸
    file_replayed cfg _ .goInit (fun p => groupsFrom p specs) (Or.inl rfl) hrot hh (wg_groups_replayed cfg bunches specs h)

def nasuMats (ws : List Nasu) : List (List Pt) :=
  ws.flatMap fun w => (adjScanOrder w.adjScan).map fun k => shiftPts w.pts k w.dx w.dy w.dz

theorem nasuOps_eq (ws : List Nasu) : nasuOps ws = (nasuMats ws).map Op.write ++ [Op.goInit] := by
  simp [nasuOps, nasuMats, List.map_flatMap, List.map_map, Function.comp_def]

/-- **C08, the whole Nasu file.** For every list of Nasu waveguides whose shifted copies `write` accepts (closed 0 / 1 paths), the
file `NasuWriter.pgm` writes performs `passFrom` over `nasuMats`: every waveguide once per adjacent pass, in `adj_scan_order`
(`adjOrder_*`: symmetric, unit spacing, outward), point for point; whatever moves follow are made with the shutter closed. -/
theorem nasu_file_replayed (cfg : Cfg) (ws : List Nasu) (wss : List (List (G1W × Rat)))
    (hrot : cfg.aeroAngle = 0) (hh : headerStill cfg.header = true)
    (hp : List.Forall₂ (fun m w => printed cfg m = .ok w) (nasuMats ws) wss)
    (hs : ∀ m ∈ nasuMats ws, ∀ p ∈ m, p.s = 0 ∨ p.s = 1) (hc : ∀ m ∈ nasuMats ws, endsClosed m) :
    ∃ tail, movesOf (execStmts (session cfg (nasuOps ws)).1 {}).2 = passFrom {} wss ++ tail ∧
      (∀ m ∈ tail, m.shutter = false) ∧ (execStmts (session cfg (nasuOps ws)).1 {}).1.shutter = false := by
  rw [nasuOps_eq]
  exact file_replayed cfg _ .goInit (fun p => passFrom p wss) (Or.inl rfl) hrot hh (Performs.writes hp hs hc).bodyMoves

theorem mk_rep_pre (cfg : Cfg) (m : List Pt) (n : Int) (cs : CS) :
    (execOp cfg (Op.rep n [Op.comment true, Op.write m, Op.comment false]) cs).pre = [] := by
  simp only [execOp]
  split
  · rfl
  · simp only [execOps, execOp, Res.ofOut]
    cases write cfg m (comment true cs).2 <;> simp

def MkOK (cfg : Cfg) (m : WG) (g : List (List (G1W × Rat)) × Nat) : Prop :=
  (∃ ws, printed cfg m.pts = .ok ws ∧ g.1 = [ws]) ∧ m.scan = (g.2 : Int) ∧ 0 < g.2 ∧
    (∀ p ∈ m.pts, p.s = 0 ∨ p.s = 1) ∧ endsClosed m.pts

theorem mk_body_moves (cfg : Cfg) (ms : List WG) (specs : List (List (List (G1W × Rat)) × Nat))
    (h : List.Forall₂ (MkOK cfg) ms specs) :
    BodyMoves cfg (ms.map fun m => Op.rep m.scan [Op.comment true, Op.write m.pts, Op.comment false]) (fun p => groupsFrom p specs) := by
  refine (Performs.groups (·.scan) (fun m => [Op.comment true, Op.write m.pts, Op.comment false]) (h.imp fun m g hg => ?_)).bodyMoves
  obtain ⟨⟨ws, hp, hg1⟩, hscan, hpos, hs, hc⟩ := hg
  exact ⟨hscan, hpos, hg1 ▸ Performs.marker hp hs hc⟩

/-- **C08, the whole marker file.** Every marker is drawn exactly its number of scans times, point for point, one after the other;
whatever moves follow are made with the shutter closed. -/
theorem mk_file_replayed (cfg : Cfg) (ms : List WG) (specs : List (List (List (G1W × Rat)) × Nat))
    (hrot : cfg.aeroAngle = 0) (hh : headerStill cfg.header = true) (h : List.Forall₂ (MkOK cfg) ms specs) :
    ∃ tail, movesOf (execStmts (session cfg (mkOps ms)).1 {}).2 = groupsFrom {} specs ++ tail ∧
      (∀ m ∈ tail, m.shutter = false) ∧ (execStmts (session cfg (mkOps ms)).1 {}).1.shutter = false :=
  file_replayed cfg _ .goOrigin (fun p => groupsFrom p specs) (Or.inr rfl) hrot hh (mk_body_moves cfg ms specs h)

/-! non-vacuity: the hypotheses of `wg_file_replayed` at two closed waveguides in one group, three scans, mirrored and shifted
configuration.  `execStmts` (well-founded recursion) does not reduce in the kernel: only the specification side is evaluated. -/
private def demoCfg : Cfg := { shiftX := 1/2, flipX := true, neff := 2 }
private def demoA : List Pt := [⟨0, 0, 0, 5, 0⟩, ⟨0, 0, 0, 5, 1⟩, ⟨1, 0, 0, 20, 1⟩, ⟨2, 1, 0, 20, 1⟩, ⟨2, 1, 0, 20, 0⟩, ⟨0, 0, 0, 5, 0⟩]
private def demoB : List Pt := [⟨0, 1, 0, 5, 0⟩, ⟨0, 1, 0, 5, 1⟩, ⟨3, 1, 0, 20, 1⟩, ⟨3, 1, 0, 20, 0⟩, ⟨0, 1, 0, 5, 0⟩]

example : (match printed demoCfg demoA, printed demoCfg demoB with
    | .ok wa, .ok wb => (groupsFrom {} [([wa, wb], 3)]).length == 21 && (passFrom {} [wa, wb]).length == 7
    | _, _ => false) = true := by decide +kernel
example : (∀ p ∈ demoA, p.s = 0 ∨ p.s = 1) ∧ (∀ p ∈ demoB, p.s = 0 ∨ p.s = 1) := by decide
example : headerStill ({ demoCfg with header := Femto.Gen.header_uwe } : Cfg).header = true := by decide +kernel
example : endsClosed demoA ∧ endsClosed demoB := by
  constructor <;> (intro p h; simp [demoA, demoB] at h; subst h; rfl)

theorem outFile_empty (d f s : String) : outFile d f s true = none := rfl

theorem outFile_name (d f s : String) :
    outFile d f s false = some (if d = "" then stemOf f ++ s ++ ".pgm" else d ++ "/" ++ (stemOf f ++ s ++ ".pgm")) := rfl

example : adjScanOrder 5 = [0, 1, -1, 2, -2] := by decide +kernel
example : adjScanOrder 4 = [1/2, -1/2, 3/2, -3/2] := by decide +kernel
example : adjScanOrder 1 = [0] := by decide +kernel

open Femto.Ctl in
def countOpen (evs : List Ev) : Nat := (evs.filter fun e => e == .pso true).length

theorem countOpen_append (a b : List Ev) : countOpen (a ++ b) = countOpen a + countOpen b := by
  simp [countOpen, List.filter_append]

/-- **a `REPEAT n` block performs its body `n` times**: if one execution of the body opens the shutter `k` times from any
state (a write block opens it once per open-shutter piece of the path), the loop opens it `n * k` times -/
theorem repeat_multiplies (body : List Stmt) (k : Nat) (hk : ∀ σ, countOpen (execStmts body σ).2 = k) (n : Nat) (σ : St) :
    countOpen (execStmt (.rep n body) σ).2 = n * k := by
  rw [execStmt]
  induction n generalizing σ with
  | zero => simp [execRep, countOpen]
  | succ n ih =>
    rw [execRep]
    simp only [countOpen_append, hk, ih]
    ring

end Femto.C08
