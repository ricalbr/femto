/-
C06 — trench programs fire only inside trench footprints and cut the full depth.
PARTIAL.  Proved: (1) soundness of the static shutter discipline for the reference controller with FARCALL inlining —
a tree whose calling files pass the check never moves in x / y with the shutter open outside the leaf sub-programs
(wall / floor / bed); the check itself is run on the exported files (translation validation).  (2) the depth schedule:
passes `deltaz` apart from the starting offset through the full height of every stacked box, floor at or above the top of
the box.  (3) for the compile-side model of the call files (`Model/TrenchProg.lean`): every call file is a disciplined calling
file, its only loops are the wall loops of the schedule, and a block run by the tree controller traces the wall passes and cuts
the floor at the depths of the schedule, up to the rounding of the printed numbers.
Sampled: that the leaf sub-programs stay inside the transformed block footprints (shapely).
The pieces into which (3) cuts a block (`wallPrefix`, `floorPrefix`, `floorPart`) are defined in `Proofs/TrenchCompile.lean`.
-/
import FemtoVerif.Proofs.TreeLemmas
import FemtoVerif.Proofs.TrenchCompile
import FemtoVerif.Proofs.Fmt
import FemtoVerif.Gen.Data
import Mathlib.Tactic.Linarith
import Mathlib.Tactic.Ring
import FemtoVerif.Proofs.Counting

namespace Femto.C06
open Femto.Ctl Femto.TP Femto.Gc

theorem treeOK_of_disciplined (t : Tree) (h : treeDisciplined t = true) : TreeOK (treeLeaf t) t := by
  intro id body hfind
  obtain ⟨e, hf, rfl⟩ := Option.map_eq_some_iff.mp hfind
  have hid : e.1 = id := by simpa using List.find?_some hf
  have := List.all_eq_true.mp h e (List.mem_of_find?_eq_some hf)
  rw [hid] at this
  simp only [Bool.or_eq_true, Bool.and_eq_true, Bool.not_eq_eq_eq_not, Bool.not_true] at this
  rcases this with ⟨h1, h2⟩ | ⟨⟨h1, h2⟩, h3⟩
  · exact ⟨h2.trans h1.symm, .inl h1⟩
  · exact ⟨h2.trans h1.symm, .inr h3⟩

/-- **the shutter is never open while travelling**: in a tree that passes the static check, running any calling file from a
closed shutter (any call depth `fuel`, any loop counts) gives a trace in which every shutter-open move made by a calling file
keeps x and y (it is a pure z step), every other calling file is entered with the shutter closed and satisfies the same, and
the file ends with the shutter closed.  Shutter-open x/y motion therefore happens only inside leaf sub-programs. -/
theorem tree_discipline (t : Tree) (h : treeDisciplined t = true) (fuel : Nat) (main : String) (body : List Stmt)
    (hm : t.find main = some body) (hnl : isLeafBody body = false) (σ : St) (hσ : σ.shutter = false) :
    (execStmtsG (stepT t fuel) body σ).1.shutter = false ∧ Good (treeLeaf t) (execStmtsG (stepT t fuel) body σ).2 := by
  have hok := treeOK_of_disciplined t h
  have hdisc : disciplined (treeLeaf t) body = true := (hok main body hm).2.resolve_left (by simp [hnl])
  have hd : discStmts (treeLeaf t) σ.shutter body = some false := by
    rw [hσ]; simpa [disciplined] using hdisc
  exact execStmtsG_sound (stepT_ok (treeLeaf t) t hok fuel) body σ false hd

theorem run_discipline (t : Tree) (h : treeDisciplined t = true) (fuel : Nat) (main : String) (body : List Stmt)
    (hm : t.find main = some body) (hnl : isLeafBody body = false) :
    ∃ r, runTree t fuel main = some r ∧ r.1.shutter = false ∧ Good (treeLeaf t) r.2 := by
  exact ⟨execStmtsG (stepT t fuel) body {}, by simp [runTree, hm], tree_discipline t h fuel main body hm hnl {} rfl⟩

theorem leaf_call_keeps_shutter (t : Tree) (fuel : Nat) (body : List Stmt) (hl : isLeafBody body = true) (σ : St) :
    (execStmtsG (stepT t fuel) body σ).1.shutter = σ.shutter :=
  leaf_keeps_shutter _ (stepT_g1 t fuel) (stepT_blank t fuel) body hl σ

/-- with calls recorded instead of executed the tree controller is the single-file reference controller of C01 / C03 / C12 -/
theorem single_file_view (ss : List Stmt) (σ : St) :
    execStmtsG stepFlat ss σ = ((execStmts ss σ).1, (execStmts ss σ).2.map .ev) := execStmtsG_flat ss σ

theorem flatten_own_events (l : List Ev) : flattenT (l.map .ev) = l := by
  induction l with
  | nil => simp [flattenT]
  | cons e r ih => simp [flattenT, ih]

/-- non-vacuity: a calling file of the shape the trench writer emits passes the check, a positioning move under an open
shutter does not -/
example : disciplined (fun k => k == "w") [.atom (.load 2 "d/w.pgm"), .atom (.g1 { x := some 1, y := some 2, z := some 0, f := some 5 }),
    .atom (.pso "X" true), .rep 3 [.atom (.farcall "w.pgm"), .atom (.g1 { zvar := some "ZCURR" })], .atom (.pso "X" false),
    .atom (.g1 { x := some 3 })] = true := by decide
example : disciplined (fun k => k == "w") [.atom (.pso "X" true), .atom (.g1 { x := some 3 }), .atom (.pso "X" false)] = false := by decide
example : disciplined (fun k => k == "w") [.rep 2 [.atom (.pso "X" true)], .atom (.pso "X" false)] = false := by decide

theorem nRepeat_bounds (h zoff dz : ℚ) (hdz : 0 < dz) (hpos : 0 < h - zoff) :
    1 ≤ nRepeat h zoff dz ∧ ((nRepeat h zoff dz : ℚ) - 1) * dz < h - zoff ∧ h - zoff ≤ (nRepeat h zoff dz : ℚ) * dz := by
  have hc0 : 0 < ((h - zoff) / dz).ceil := Rat.lt_ceil_iff.mpr (by rw [Int.cast_zero]; exact div_pos hpos hdz)
  have hcast : ((nRepeat h zoff dz : ℕ) : ℤ) = ((h - zoff) / dz).ceil := Int.natAbs_of_nonneg hc0.le
  have hb := ceil_div_bounds (x := h - zoff) hdz
  rw [← hcast, Int.cast_natCast] at hb
  exact ⟨by omega, hb⟩

/-- **from the starting offset, consecutive passes `deltaz` apart** -/
theorem pass_first (h zoff dz : ℚ) (L : ℕ) : passZ h zoff dz L 0 = L * h + zoff := by simp [passZ]

theorem pass_step (h zoff dz : ℚ) (L k : ℕ) : passZ h zoff dz L (k + 1) - passZ h zoff dz L k = dz := by
  unfold passZ; push_cast; ring

/-- **through the full height of every box**: the last pass of level `L` is within `deltaz` of the top of box `L` (and below
it), and the floor, cut after the wall, lies at or above the top of the box -/
theorem pass_last (h zoff dz : ℚ) (hdz : 0 < dz) (hpos : 0 < h - zoff) (L : ℕ) :
    ((L : ℚ) + 1) * h - dz ≤ passZ h zoff dz L (nRepeat h zoff dz - 1) ∧
    passZ h zoff dz L (nRepeat h zoff dz - 1) < ((L : ℚ) + 1) * h ∧
    ((L : ℚ) + 1) * h ≤ floorZ h zoff dz L := by
  obtain ⟨h1, h2, h3⟩ := nRepeat_bounds h zoff dz hdz hpos
  simp only [passZ, floorZ, Nat.cast_pred h1]
  exact ⟨by linarith only [h3], by linarith only [h2], by linarith only [h3]⟩

/-- **also across a level boundary**: the first pass of the next level is at most `deltaz` above the last pass of this one
(it may lie below it: the boxes overlap by the starting offset `z_off ≤ 0`) -/
theorem pass_across (h zoff dz : ℚ) (hdz : 0 < dz) (hpos : 0 < h - zoff) (hz : zoff ≤ 0) (L : ℕ) :
    passZ h zoff dz (L + 1) 0 - passZ h zoff dz L (nRepeat h zoff dz - 1) ≤ dz ∧
    zoff < passZ h zoff dz (L + 1) 0 - passZ h zoff dz L (nRepeat h zoff dz - 1) := by
  obtain ⟨h1, h2, -⟩ := pass_last h zoff dz hdz hpos L
  rw [pass_first]
  push_cast
  exact ⟨by linarith only [h1, hz], by linarith only [h2]⟩

theorem passZ_div (h zoff dz neff : ℚ) (L k : ℕ) : passZ h zoff dz L k / neff = (L * h + zoff) / neff + k * (dz / neff) := by
  unfold passZ; ring

/-- **the wall loop of the call file realises the schedule**: entered ready at the starting depth of level `L`
(`(L h + z_off) / neff` in controller coordinates, `$ZCURR` set to it, the wall program loaded and bound to an x/y-only file),
`k` turns of `REPEAT { [DWELL] FARCALL wall; $ZCURR = $ZCURR + deltaz/neff; G1 Z$ZCURR }` leave the controller ready at glass
depth `passZ L k` — so pass number `k` (counted from 0) is traced at exactly that depth, for every `k`, call depth and
pause setting. -/
theorem wall_loop_depths (t : Tree) (f : ℕ) (p : String) (h zoff dz neff : ℚ) (hneff : neff ≠ 0) (L k : ℕ) (σ : St)
    (hr : Ready t p ((L * h + zoff) / neff) σ) :
    Ready t p (passZ h zoff dz L k / neff) (execRepG (stepT t (f + 1)) k (wallLoopBody p (dz / neff)) σ).1 ∧
    ∀ q, Ready t p (passZ h zoff dz L k / neff) (execRepG (stepT t (f + 1)) k (wallLoopBodyD q p (dz / neff)) σ).1 := by
  rw [passZ_div]
  exact ⟨execRepG_wall t f p (dz / neff) k _ σ hr, fun q => execRepG_wallD t f q p (dz / neff) k _ σ hr⟩

theorem schedule_length (h zoff dz : ℚ) (nboxz : ℕ) : (schedule h zoff dz nboxz).length = nboxz * nRepeat h zoff dz := by
  -- the length of a `flatMap` is the sum of the lengths, here `nboxz` times the same number
  simp only [schedule, List.length_flatMap, List.length_map, List.length_range, List.map_const', List.sum_replicate, nsmul_eq_mul, Nat.cast_id]


/-! From here on the theorems are about the compile-side model of the call file (`TP.farcallFile`), which the check compares
instruction by instruction with the exported `FARCALLnnn.pgm` (plain and U-trench columns). -/

theorem discStmts_append (leaf : String → Bool) (s : Bool) (a b : List Stmt) :
    discStmts leaf s (a ++ b) = (discStmts leaf s a).bind fun s' => discStmts leaf s' b := by
  induction a generalizing s with
  | nil => simp [discStmts]
  | cons st a ih =>
    simp only [List.cons_append, discStmts]
    cases discStmt leaf s st with
    | none => simp
    | some s' => simp [ih]

theorem discStmts_append_some {leaf : String → Bool} {s s1 s2 : Bool} {a b : List Stmt} (ha : discStmts leaf s a = some s1)
    (hb : discStmts leaf s1 b = some s2) : discStmts leaf s (a ++ b) = some s2 := by
  rw [discStmts_append, ha]; exact hb

/-- a compile step that takes the shutter from `s` to `s'` on both sides: the compiler's belief and the discipline of its output -/
def Takes (leaf : String → Bool) (s s' : Bool) (f : CS → Res) : Prop :=
  ∀ cs : CS, cs.shutterOn = s → (f cs).err = none → discStmts leaf s (f cs).out = some s' ∧ (f cs).cs.shutterOn = s'

theorem Takes.andThen {leaf : String → Bool} {s s1 s2 : Bool} {f g : CS → Res} (hf : Takes leaf s s1 f) (hg : Takes leaf s1 s2 g) :
    Takes leaf s s2 (fun cs => (f cs).andThen g) := by
  intro cs hcs herr
  obtain ⟨h1, h2⟩ := andThen_err_none herr
  obtain ⟨a1, a2⟩ := hf cs hcs h1
  obtain ⟨b1, b2⟩ := hg (f cs).cs a2 h2
  simp only [andThen_of_ok g h1]
  exact ⟨discStmts_append_some a1 b1, b2⟩

theorem takes_ofOut_quiet (leaf : String → Bool) (s : Bool) (f : CS → Out)
    (h : ∀ cs, discStmts leaf s (f cs).1 = some s ∧ (f cs).2.shutterOn = cs.shutterOn) :
    Takes leaf s s (fun cs => Res.ofOut (f cs)) := by
  intro cs hcs _
  exact ⟨(h cs).1, by simp [Res.ofOut, (h cs).2, hcs]⟩

section pieces
variable {leaf : String → Bool}

theorem discStmts_emit_quiet (s : Bool) (is : List Instr) (h : ∀ i ∈ is, discAtom leaf s i = some s) :
    discStmts leaf s (emit is) = some s := by
  induction is with
  | nil => rfl
  | cons i is ih =>
    rw [emit, List.map_cons, discStmts, discStmt, h i (List.mem_cons_self ..)]
    exact ih fun j hj => h j (List.mem_cons_of_mem _ hj)

theorem takes_instr (s : Bool) (is : List Instr) (h : ∀ i ∈ is, discAtom leaf s i = some s) : Takes leaf s s (instrR is) :=
  fun _ hcs _ => ⟨discStmts_emit_quiet s is h, hcs⟩

theorem takes_one (s : Bool) (i : Instr) (h : discAtom leaf s i = some s) : Takes leaf s s (instrR [i]) :=
  takes_instr s [i] (List.forall_mem_singleton.mpr h)

/-- the lines the discipline passes over in state `s` (a `PSOCONTROL` is never one of them, so the compiler's belief stays) -/
def quiet (leaf : String → Bool) (s : Bool) (i : Instr) : Bool := !isPso i && discAtom leaf s i == some s

theorem quiet_iff {s : Bool} {i : Instr} : quiet leaf s i = true ↔ isPso i = false ∧ discAtom leaf s i = some s := by
  simp [quiet]

theorem quiet_of {s : Bool} {i : Instr} (hp : isPso i = false) (hd : discAtom leaf s i = some s) : quiet leaf s i = true :=
  quiet_iff.mpr ⟨hp, hd⟩

theorem Lines.takes {s : Bool} {f : CS → Res} (hf : ∀ cs, Lines (quiet leaf s) cs (f cs)) : Takes leaf s s f := by
  intro cs hcs _
  have h := hf cs
  rw [h.flat, h.shutter fun i hi => (quiet_iff.mp hi).1]
  exact ⟨discStmts_emit_quiet s _ fun i hi => (quiet_iff.mp (h.all i hi)).2, hcs⟩

theorem takes_comment (s : Bool) (b : Bool) : Takes leaf s s (fun cs => Res.ofOut (comment b cs)) :=
  Lines.takes (comment_lines (quiet_of rfl rfl) (fun _ => quiet_of rfl rfl) b)

theorem takes_dwell (s : Bool) (p : Option Rat) : Takes leaf s s (dwellR p) :=
  Lines.takes (dwellR_lines (fun _ => quiet_of rfl rfl) p)

theorem takes_load (s : Bool) {p : String} (t : Nat) : Takes leaf s s (loadOp p t) :=
  Lines.takes (loadOp_lines (fun _ _ => quiet_of rfl rfl) p t)

theorem takes_remove (s : Bool) {p : String} (t : Nat) : Takes leaf s s (removeOp p t) :=
  Lines.takes (removeOp_lines (fun _ => quiet_of rfl rfl) (fun _ => quiet_of rfl rfl) (fun _ => quiet_of rfl rfl) p t)

theorem takes_farcall (cfg : Cfg) (s : Bool) {p : String} (hl : leaf (progKey p) = true) : Takes leaf s s (farcallOp cfg p) :=
  Lines.takes (farcallOp_lines (fun _ => quiet_of rfl rfl) cfg p (quiet_of rfl (if_pos hl)))

theorem takes_uMove (cfg : Cfg) (s : Bool) {u : Option Rat} (pause : Bool) : Takes leaf s s (uMove cfg u pause) :=
  Lines.takes (uMove_lines (fun _ => quiet_of rfl rfl) (fun _ => quiet_of rfl (by cases s <;> rfl)) cfg u pause)

theorem takes_shutter (cfg : Cfg) (s on : Bool) : Takes leaf s on (shutterR cfg on) := by
  intro cs hcs _
  rw [shutterR, shutter_eq]
  split
  · rename_i h
    exact ⟨by rw [← hcs, h]; rfl, h⟩
  · exact ⟨rfl, rfl⟩

theorem moveTo_disc (leaf : String → Bool) (cfg : Cfg) (x y z sp : Option Rat) (cs : CS) (hcs : cs.shutterOn = false) :
    discStmts leaf false (moveToR cfg x y z sp cs).out = some false ∧ (moveToR cfg x y z sp cs).cs.shutterOn = false := by
  have hc : Takes leaf false false fun cs => Res.ofOut (closeIfOpen cfg cs) := by
    intro cs hcs _
    dsimp only
    rw [closeIfOpen_eq, if_neg (by simp [hcs])]
    exact ⟨rfl, hcs⟩
  rw [moveToR_eq]
  cases formatArgs cfg.digits x y z (some (sp.getD cfg.speedPos)) with
  | error e => exact hc cs hcs rfl
  | ok w =>
    exact (((hc.andThen (takes_one false (.g1 w) (by simp [discAtom]))).andThen (takes_dwell false _)).andThen
      (takes_one false .blank rfl)) cs hcs rfl

theorem takes_moveTo (cfg : Cfg) {x y z sp : Option Rat} : Takes leaf false false (moveToR cfg x y z sp) :=
  fun cs hcs _ => moveTo_disc leaf cfg x y z sp cs hcs

theorem takes_wallLoop (cfg : Cfg) (c : Col) (i : Nat) (hl : leaf (progKey (c.wall i)) = true) :
    Takes leaf true true (wallLoop cfg c i) := by
  intro cs hcs herr
  unfold wallLoop at herr ⊢
  generalize fmt 6 (c.deltaz / cfg.neff) = q at herr ⊢
  by_cases hn : c.nRep ≤ 0
  · rw [if_pos hn] at herr; cases herr
  · simp only [if_neg hn] at herr ⊢
    have hb : Takes leaf true true (fun cs => (farcallOp cfg (c.wall i) cs).andThen
        (instrR [.incVar "zcurr" q, .g1 { zvar := some "ZCURR" }])) :=
      (takes_farcall cfg true hl).andThen (takes_instr true [.incVar "zcurr" q, .g1 { zvar := some "ZCURR" }]
        (forall_mem_pair rfl rfl))
    obtain ⟨b1, b2⟩ := hb cs hcs herr
    dsimp only at b1 b2
    exact ⟨by simp only [discStmts, discStmt, b1, if_true, discAtom], b2⟩

theorem takes_wallPrefix (cfg : Cfg) (c : Col) (nbox i : Nat) (xy : Rat × Rat) : Takes leaf false true (wallPrefix cfg c nbox i xy) := by
  unfold wallPrefix
  exact (((((((takes_comment false true).andThen (takes_load false 2)).andThen (takes_one false .msg rfl)).andThen
    (takes_shutter cfg false false)).andThen (takes_uMove cfg false true)).andThen (takes_moveTo cfg)).andThen
    (takes_one false _ rfl)).andThen (takes_shutter cfg false true)

theorem takes_floorPart (cfg : Cfg) (c : Col) (i : Nat) (hf : leaf (progKey (c.floor i)) = true) :
    Takes leaf true false (floorPart cfg c i) := by
  unfold floorPart floorPrefix
  exact (((((((takes_remove true 2).andThen (takes_shutter cfg true false)).andThen (takes_load false 2)).andThen
    (takes_one false .msg rfl)).andThen (takes_uMove cfg false true)).andThen (takes_shutter cfg false true)).andThen
    (takes_farcall cfg true hf)).andThen
    (((takes_shutter cfg true false).andThen (takes_uMove cfg false false)).andThen (takes_remove false 2))

end pieces

/-- **one (level, trench) block of the call file is disciplined**: compiled with the shutter believed closed, whenever it
compiles without error it moves in x / y only with the shutter closed, opens it exactly around the wall loop and around the
floor call — both calls of leaf programs —, and ends closed -/
theorem trenchBlock_disciplined (leaf : String → Bool) (cfg : Cfg) (c : Col) (nbox i : Nat) (xy : Rat × Rat)
    (hw : leaf (progKey (c.wall i)) = true) (hf : leaf (progKey (c.floor i)) = true) :
    Takes leaf false false (trenchBlock cfg c nbox i xy) := by
  rw [funext (trenchBlock_parts cfg c nbox i xy)]
  exact ((takes_wallPrefix cfg c nbox i xy).andThen (takes_wallLoop cfg c i hw)).andThen (takes_floorPart cfg c i hf)

theorem blocksFrom_disciplined_mem (leaf : String → Bool) (cfg : Cfg) (c : Col) (l : List (Nat × Nat × (Rat × Rat)))
    (hw : ∀ b ∈ l, leaf (progKey (c.wall b.2.1)) = true) (hf : ∀ b ∈ l, leaf (progKey (c.floor b.2.1)) = true) :
    Takes leaf false false (blocksFrom cfg c l) := by
  induction l with
  | nil => intro cs hcs _; exact ⟨rfl, hcs⟩
  | cons b l ih =>
    exact Takes.andThen (trenchBlock_disciplined leaf cfg c b.1 b.2.1 b.2.2 (hw b (List.mem_cons_self ..)) (hf b (List.mem_cons_self ..)))
      (ih (fun b' h => hw b' (List.mem_cons_of_mem _ h)) fun b' h => hf b' (List.mem_cons_of_mem _ h))

theorem blocksFrom_disciplined (leaf : String → Bool) (cfg : Cfg) (c : Col)
    (hw : ∀ i, leaf (progKey (c.wall i)) = true) (hf : ∀ i, leaf (progKey (c.floor i)) = true)
    (l : List (Nat × Nat × (Rat × Rat))) : Takes leaf false false (blocksFrom cfg c l) :=
  blocksFrom_disciplined_mem leaf cfg c l (fun b _ => hw b.2.1) fun b _ => hf b.2.1

/-- a bed block of a U-trench call file: positioned in x / y with the shutter closed, open only across the call of the bed program -/
theorem bedBlock_disciplined (leaf : String → Bool) (cfg : Cfg) (c : Col) (k : Nat) (xy : Rat × Rat)
    (hb : leaf (progKey (bedName k)) = true) : Takes leaf false false (bedBlock cfg c k xy) := by
  unfold bedBlock
  exact ((((((((((takes_comment false true).andThen (takes_shutter cfg false false)).andThen (takes_load false 2)).andThen
    (takes_one false .msg rfl)).andThen (takes_uMove cfg false true)).andThen (takes_moveTo cfg)).andThen
    (takes_shutter cfg false true)).andThen (takes_farcall cfg true hb)).andThen (takes_shutter cfg true false)).andThen
    (takes_uMove cfg false false)).andThen (takes_remove false 2)

theorem bedsFrom_disciplined_mem (leaf : String → Bool) (cfg : Cfg) (c : Col) (l : List (Nat × (Rat × Rat)))
    (hb : ∀ b ∈ l, leaf (progKey (bedName b.1)) = true) : Takes leaf false false (bedsFrom cfg c l) := by
  induction l with
  | nil => intro cs hcs _; exact ⟨rfl, hcs⟩
  | cons b l ih =>
    exact Takes.andThen (bedBlock_disciplined leaf cfg c b.1 b.2 (hb b (List.mem_cons_self ..)))
      (ih fun b' h => hb b' (List.mem_cons_of_mem _ h))

theorem bedsFrom_disciplined (leaf : String → Bool) (cfg : Cfg) (c : Col) (hb : ∀ k, leaf (progKey (bedName k)) = true)
    (l : List (Nat × (Rat × Rat))) : Takes leaf false false (bedsFrom cfg c l) :=
  bedsFrom_disciplined_mem leaf cfg c l fun b _ => hb b.1

theorem mem_blockList {c : Col} {b : Nat × Nat × (Rat × Rat)} (h : b ∈ blockList c) : b.2.1 < c.inits.length := by
  simp only [blockList, List.mem_flatMap, List.mem_map] at h
  obtain ⟨_, _, ⟨xy, i⟩, hm, rfl⟩ := h
  simpa using (List.mem_zipIdx hm).2.1

theorem mem_bedList {c : Col} {b : Nat × (Rat × Rat)} (h : b ∈ bedList c) : b.1 < c.beds.length := by
  simp only [bedList, List.mem_map] at h
  obtain ⟨⟨xy, k⟩, hm, rfl⟩ := h
  simpa using (List.mem_zipIdx hm).2.1

/-- **the body of the call file is disciplined** as soon as the wall and floor programs of its trenches and the programs of its
beds — those the column has, no others — are leaves -/
theorem farcallBody_disciplined_lt (leaf : String → Bool) (cfg : Cfg) (c : Col)
    (hw : ∀ i < c.inits.length, leaf (progKey (c.wall i)) = true) (hf : ∀ i < c.inits.length, leaf (progKey (c.floor i)) = true)
    (hb : ∀ k < c.beds.length, leaf (progKey (bedName k)) = true) :
    Takes leaf false false (farcallBody cfg c) := by
  unfold farcallBody
  have hd : Takes leaf false false (fun cs : CS =>
      ({ pre := emit [.dvar ["zcurr"], .blank], cs := { cs with dvars := cs.dvars ++ ["zcurr"] } } : Res)) := by
    intro cs hcs _; exact ⟨rfl, hcs⟩
  exact Takes.andThen (Takes.andThen (Takes.andThen hd
    (blocksFrom_disciplined_mem leaf cfg c _ (fun b h => hw _ (mem_blockList h)) fun b h => hf _ (mem_blockList h)))
    (bedsFrom_disciplined_mem leaf cfg c _ fun b h => hb _ (mem_bedList h)))
    (takes_one false .msg rfl)

/-- **the body of the call file is disciplined**, with the leaf hypotheses asked of every index -/
theorem farcallBody_disciplined (leaf : String → Bool) (cfg : Cfg) (c : Col)
    (hw : ∀ i, leaf (progKey (c.wall i)) = true) (hf : ∀ i, leaf (progKey (c.floor i)) = true)
    (hb : ∀ k, leaf (progKey (bedName k)) = true) :
    Takes leaf false false (farcallBody cfg c) :=
  farcallBody_disciplined_lt leaf cfg c (fun i _ => hw i) (fun i _ => hf i) fun k _ => hb k

theorem farcallBody_pre (cfg : Cfg) (c : Col) (cs : CS) : (farcallBody cfg c cs).pre = emit [.dvar ["zcurr"], .blank] := by
  have h := andThen_pre_nil (andThen_pre_nil (blocksFrom_pre cfg c (blockList c) { cs with dvars := cs.dvars ++ ["zcurr"] })
    fun c' => (bedsFrom_lines cfg c (bedList c) c').pre) (f := instrR [.msg]) fun _ => rfl
  simp only [farcallBody, andThen_assoc] at h ⊢
  rw [andThen_of_ok _ rfl, h]
  rfl

/-- **the whole call file is a disciplined calling file** (`Ctl.disciplined`, what `tree_discipline` / `run_discipline` ask
of every non-leaf file of an exported tree): for every configuration without a session-wide rotation whose header is
disciplined from a closed shutter and every column whose wall, floor and bed programs are leaves (with `leaf := treeLeaf t`:
the tree holds a leaf file for each of them), whenever the body compiles without error -/
theorem farcallFile_disciplined_lt (leaf : String → Bool) (cfg : Cfg) (c : Col) (hrot : cfg.aeroAngle = 0)
    (hh : discStmts leaf false (emit cfg.header) = some false)
    (hw : ∀ i < c.inits.length, leaf (progKey (c.wall i)) = true) (hf : ∀ i < c.inits.length, leaf (progKey (c.floor i)) = true)
    (hb : ∀ k < c.beds.length, leaf (progKey (bedName k)) = true)
    (hok : (farcallBody cfg c (seq (seq (emit (cfg.header ++ [.blank]), ({} : CS)) (dwell (some 1))) fun cs => (emit [.blank], cs)).2).err = none) :
    disciplined leaf (farcallFile cfg c).1 = true := by
  have hhead : discStmts leaf false (sessionHead cfg).1 = some false := by
    rw [sessionHead_eq, show emit (cfg.header ++ [.blank, .dwell (rabs 1), .blank]) = emit cfg.header ++ emit [.blank, .dwell (rabs 1), .blank]
      from List.map_append]
    exact discStmts_append_some hh rfl
  obtain ⟨b1, b2⟩ := farcallBody_disciplined_lt leaf cfg c hw hf hb (sessionHead cfg).2 (by rw [sessionHead_eq]) hok
  have htail : discStmts leaf false (sessionTail cfg (farcallBody cfg c (sessionHead cfg).2).cs).1 = some false := by
    simp only [sessionTail, hrot, if_true, seq, List.nil_append]
    split
    · exact (moveTo_disc leaf cfg _ _ _ _ _ b2).1
    · rfl
  rw [disciplined, farcallFile, sessionWith_noRot hrot, farcallBody_pre, beq_iff_eq]
  exact discStmts_append_some (discStmts_append_some (discStmts_append_some rfl hhead) b1) htail

/-- the same with the leaf hypotheses asked of every index (which no finite tree meets with `leaf := treeLeaf t`:
`farcallFile_disciplined_lt` is the usable form) -/
theorem farcallFile_disciplined (leaf : String → Bool) (cfg : Cfg) (c : Col) (hrot : cfg.aeroAngle = 0)
    (hh : discStmts leaf false (emit cfg.header) = some false)
    (hw : ∀ i, leaf (progKey (c.wall i)) = true) (hf : ∀ i, leaf (progKey (c.floor i)) = true)
    (hb : ∀ k, leaf (progKey (bedName k)) = true)
    (hok : (farcallBody cfg c (seq (seq (emit (cfg.header ++ [.blank]), ({} : CS)) (dwell (some 1))) fun cs => (emit [.blank], cs)).2).err = none) :
    disciplined leaf (farcallFile cfg c).1 = true :=
  farcallFile_disciplined_lt leaf cfg c hrot hh (fun i _ => hw i) (fun i _ => hf i) (fun k _ => hb k) hok


/-- a statement of a call file: a plain instruction, or the wall loop of some trench with `n` turns and increment `q` -/
def WallRep (c : Col) (n : Nat) (q : Rat) (st : Stmt) : Prop :=
  (∃ i, st = .atom i) ∨ ∃ j, st = .rep n (wallLoopBody (c.wall j) q) ∨ ∃ t, st = .rep n (wallLoopBodyD t (c.wall j) q)

def Loops (c : Col) (n : Nat) (q : Rat) (f : CS → Res) : Prop := ∀ cs, (f cs).err = none → ∀ st ∈ (f cs).out, WallRep c n q st

theorem Loops.andThen {c : Col} {n : Nat} {q : Rat} {f g : CS → Res} (hf : Loops c n q f) (hg : Loops c n q g) :
    Loops c n q (fun cs => (f cs).andThen g) := by
  intro cs herr st hst
  obtain ⟨h1, h2⟩ := andThen_err_none herr
  simp only [andThen_of_ok g h1] at hst
  exact (List.mem_append.mp hst).elim (hf cs h1 st) (hg _ h2 st)

theorem Lines.loops {p : Instr → Bool} {c : Col} {n : Nat} {q : Rat} {f : CS → Res} (hf : ∀ cs, Lines p cs (f cs)) : Loops c n q f := by
  intro cs _ st hst
  rw [(hf cs).flat] at hst
  obtain ⟨i, _, rfl⟩ := List.mem_map.mp hst
  exact Or.inl ⟨i, rfl⟩

theorem wallLoop_out (cfg : Cfg) (c : Col) (i : Nat) (cs : CS) (herr : (wallLoop cfg c i cs).err = none) :
    (wallLoop cfg c i cs).out = [Stmt.rep c.nRep.toNat (wallLoopBody (c.wall i) (fmt 6 (c.deltaz / cfg.neff))), Stmt.atom .blank] ∨
    ∃ d, (wallLoop cfg c i cs).out =
      [Stmt.rep c.nRep.toNat (wallLoopBodyD d (c.wall i) (fmt 6 (c.deltaz / cfg.neff))), Stmt.atom .blank] := by
  unfold wallLoop at herr ⊢
  generalize fmt 6 (c.deltaz / cfg.neff) = q at herr ⊢
  split at herr
  · cases herr
  · rename_i hn
    dsimp only at herr
    obtain ⟨h1, -⟩ := andThen_err_none herr
    -- `farcall` prints its pause first: nothing, or one `DWELL`
    simp only [if_neg hn, andThen_of_ok _ h1, farcallOp_out cfg _ cs h1, instrR, Res.ofOut]
    rcases dwell_cases cfg.shortPause cs with hd | ⟨d, hd⟩ <;> rw [hd]
    · exact Or.inl rfl
    · exact Or.inr ⟨d, rfl⟩

theorem loops_wallLoop (cfg : Cfg) (c : Col) (i : Nat) :
    Loops c c.nRep.toNat (fmt 6 (c.deltaz / cfg.neff)) (wallLoop cfg c i) := by
  intro cs herr
  rcases wallLoop_out cfg c i cs herr with ho | ⟨d, ho⟩ <;> rw [ho]
  · exact forall_mem_pair (.inr ⟨i, .inl rfl⟩) (.inl ⟨_, rfl⟩)
  · exact forall_mem_pair (.inr ⟨i, .inr ⟨d, rfl⟩⟩) (.inl ⟨_, rfl⟩)

theorem loops_blocksFrom (cfg : Cfg) (c : Col) (l : List (Nat × Nat × (Rat × Rat))) :
    Loops c c.nRep.toNat (fmt 6 (c.deltaz / cfg.neff)) (blocksFrom cfg c l) := by
  induction l with
  | nil => exact Lines.loops fun cs => Lines.stop anyLine cs none
  | cons b l ih =>
    refine Loops.andThen ?_ ih
    rw [funext (trenchBlock_parts cfg c b.1 b.2.1 b.2.2)]
    exact Loops.andThen (Loops.andThen (Lines.loops (wallPrefix_lines cfg c _ _ _)) (loops_wallLoop cfg c _))
      (Lines.loops (floorPart_lines cfg c _))

/-- **every loop of the call file is a wall loop of the schedule**: whenever the body compiles without error, each of its
statements is a plain instruction or `REPEAT n_repeat { [DWELL] FARCALL trench<j>_wall; $ZCURR += fmt₆(deltaz / neff); G1 Z$ZCURR }`
for some trench `j` — the loop shape `wall_loop_depths` proves to realise the depth schedule; no other loop, no `FOR` -/
theorem farcallBody_loops (cfg : Cfg) (c : Col) : Loops c c.nRep.toNat (fmt 6 (c.deltaz / cfg.neff)) (farcallBody cfg c) := by
  unfold farcallBody
  have hd : Loops c c.nRep.toNat (fmt 6 (c.deltaz / cfg.neff)) (fun cs : CS =>
      ({ pre := emit [.dvar ["zcurr"], .blank], cs := { cs with dvars := cs.dvars ++ ["zcurr"] } } : Res)) := by
    intro cs _ st h; cases h
  exact Loops.andThen (Loops.andThen (Loops.andThen hd (loops_blocksFrom cfg c _)) (Lines.loops (bedsFrom_lines cfg c _)))
    (Lines.loops msg_any)


/-- the recogniser the check runs on every loop of every exported call file accepts these bodies and reads off their parameters -/
theorem matchWallLoop_body (p : String) (q : Rat) : matchWallLoop (wallLoopBody p q) = some (none, p, q) := by
  simp [matchWallLoop, wallLoopBody, flattenStmts, flattenStmt]

theorem matchWallLoop_bodyD (t : Rat) (p : String) (q : Rat) : matchWallLoop (wallLoopBodyD t p q) = some (some t, p, q) := by
  simp [matchWallLoop, wallLoopBodyD, wallLoopBody, flattenStmts, flattenStmt]

theorem sessionWith_ok (cfg : Cfg) (body : CS → Res) (hbody : ∀ cs, ResOK cs (body cs)) (hh : headerClean cfg.header = true) :
    cleanList (sessionWith cfg body).1 = true ∧ dwellOfList (sessionWith cfg body).1 = (sessionWith cfg body).2.dwellTotal :=
  Gc.sessionWith_ok cfg body hbody hh

theorem farcallBody_ok (cfg : Cfg) (c : Col) (cs : CS) : ResOK cs (farcallBody cfg c cs) :=
  andThen_ok (andThen_ok (andThen_ok ((ResOK.compositional cfg).dvar ["zcurr"] cs) (blocksFrom_ok cfg c _))
    fun c' => (bedsFrom_lines cfg c _ c').ok any_clean) fun c' => (msg_any c').ok any_clean

/-- **C03 / C12 for the trench call files.** For every column and configuration with a clean header the call file the model compiles
has balanced, properly nested loops (it is read back by the controller's parser as exactly the statement tree that was emitted) and
the dwell time the compiler reports for it is the dwell time the controller executes — `REPEAT` bodies counted once per turn —
also when the compilation stops with an error half way. -/
theorem farcallFile_ok (cfg : Cfg) (c : Col) (hh : headerClean cfg.header = true) :
    structure? (flattenStmts (farcallFile cfg c).1) = some (farcallFile cfg c).1 ∧
      dwellOfList (farcallFile cfg c).1 = (farcallFile cfg c).2.dwellTotal := by
  obtain ⟨h1, h2⟩ := sessionWith_ok cfg (farcallBody cfg c) (farcallBody_ok cfg c) hh
  exact ⟨structure?_flattenStmts _ h1, h2⟩

theorem execStmtsG_append (h : Handler) (a b : List Stmt) (σ : St) :
    (execStmtsG h (a ++ b) σ).1 = (execStmtsG h b (execStmtsG h a σ).1).1 := by
  induction a generalizing σ with
  | nil => simp [execStmtsG]
  | cons s a ih => simp only [List.cons_append, execStmtsG, ih]

/-- the exported tree holds, under the path the call file loads, an x / y-only leaf program of the name the call file calls -/
def InTree (t : Tree) (path name : String) : Prop :=
  progKey path = progKey name ∧
    ∃ id body, resolve t path = some id ∧ t.find id = some body ∧ progKey id = progKey name ∧ isLeafXY body = true

/-- controller-side invariant while a block runs; `ld`: the wall program is loaded and bound to its leaf file; `zp`, `zv`: the
depth of the stage and the value of `$ZCURR`, once they are known -/
structure Inv (t : Tree) (p : String) (ld : Bool) (zp zv : Option Rat) (σ : St) : Prop where
  abs : σ.absMode = true
  decl : σ.declared.contains "zcurr" = true
  ldd : ld = true → σ.loaded.contains (progKey p) = true ∧
    ∃ id body, lookupBound σ.bound (progKey p) = some id ∧ t.find id = some body ∧ progKey id = progKey p ∧ isLeafXY body = true
  posz : ∀ z, zp = some z → σ.pos.z = some z
  val : ∀ z, zv = some z → lookupVar σ.vals "zcurr" = some z

/-- a compile step whose output, run by the tree controller, takes `P`-states to `Q`-states whenever the step succeeds -/
def Sem (t : Tree) (fuel : Nat) (P Q : St → Prop) (f : CS → Res) : Prop :=
  ∀ cs, (f cs).err = none → ∀ σ, P σ → Q (execStmtsG (stepT t fuel) (f cs).out σ).1

theorem Sem.andThen {t : Tree} {fuel : Nat} {P Q R : St → Prop} {f g : CS → Res} (hf : Sem t fuel P Q f) (hg : Sem t fuel Q R g) :
    Sem t fuel P R (fun cs => (f cs).andThen g) := by
  intro cs herr σ hP
  obtain ⟨h1, h2⟩ := andThen_err_none herr
  simp only [andThen_of_ok g h1, execStmtsG_append]
  exact hg (f cs).cs h2 _ (hf cs h1 σ hP)

theorem reads_inv {t : Tree} {p : String} {ld : Bool} {zp zv : Option Rat} : Reads (Inv t p ld zp zv) := by
  intro σ σ' h hP
  obtain ⟨e1, e2, e3, e4, e5, e6⟩ := view_eq h
  exact ⟨e1 ▸ hP.abs, e2 ▸ hP.decl, e4 ▸ e5 ▸ hP.ldd, e6 ▸ hP.posz, e3 ▸ hP.val⟩

theorem calm_step (t : Tree) (fuel : Nat) (p : String) (ld : Bool) (zp zv : Option Rat) (σ : St) (i : Instr) (hc : calm i = true)
    (h : Inv t p ld zp zv σ) : Inv t p ld zp zv (stepT t fuel σ i).1 := reads_inv _ _ (calm_view t fuel σ i hc) h

section frame
variable {t : Tree} {fuel : Nat} {P : St → Prop}

theorem Lines.sem {f : CS → Res} (hf : ∀ cs, Lines calm cs (f cs)) (hP : Reads P) : Sem t fuel P P f := by
  intro cs _ σ hσ
  rw [(hf cs).flat]
  exact hP _ _ (emit_keeps view _ _ (fun i hi σ => calm_view t fuel σ i ((hf cs).all i hi)) σ) hσ

theorem sem_comment (hP : Reads P) (b : Bool) : Sem t fuel P P (fun cs => Res.ofOut (comment b cs)) :=
  Lines.sem (comment_lines rfl (fun _ => rfl) b) hP
theorem sem_msg (hP : Reads P) : Sem t fuel P P (instrR [.msg]) := Lines.sem (instr_lines .msg rfl rfl) hP
theorem sem_shutter (hP : Reads P) (cfg : Cfg) (on : Bool) : Sem t fuel P P (shutterR cfg on) :=
  Lines.sem (shutterR_lines (fun _ _ => rfl) cfg on) hP
theorem sem_dwell (hP : Reads P) (q : Option Rat) : Sem t fuel P P (dwellR q) := Lines.sem (dwellR_lines (fun _ => rfl) q) hP
theorem sem_uMove (hP : Reads P) (cfg : Cfg) {u : Option Rat} (pause : Bool) : Sem t fuel P P (uMove cfg u pause) :=
  Lines.sem (uMove_lines (fun _ => rfl) (fun _ => rfl) cfg u pause) hP

theorem sem_one {P Q : St → Prop} {f : CS → Res} (i : Instr) (hout : ∀ cs, (f cs).err = none → (f cs).out = emit [i])
    (h : ∀ σ, P σ → Q (stepT t fuel σ i).1) : Sem t fuel P Q f := by
  intro cs herr σ hσ
  rw [hout cs herr]
  simpa [emit, execStmtsG, execStmtG] using h σ hσ

end frame

theorem sem_load {t : Tree} {f : Nat} {p path : String} {zp zv : Option Rat} (hin : InTree t path p) :
    Sem t (f + 1) (Inv t p false zp zv) (Inv t p true zp zv) (loadOp path 2) :=
  sem_one (.load 2 path) (loadOp_out path 2) fun σ hP => by
    obtain ⟨e1, e2, e3, e4, hb⟩ := load_view (f := f) hin.1 hin.2 σ 2
    exact ⟨e1 ▸ hP.abs, e2 ▸ hP.decl, fun _ => hb, e4 ▸ hP.posz, e3 ▸ hP.val⟩

theorem sem_moveTo {t : Tree} {fuel : Nat} {p : String} {ld : Bool} {zp zv : Option Rat} (cfg : Cfg) {x y : Option Rat} {z : Rat}
    {sp : Option Rat} :
    Sem t fuel (Inv t p ld zp zv) (Inv t p ld (some (fmt cfg.digits z)) zv) (moveToR cfg x y (some z) sp) := by
  intro cs herr
  rw [moveToR_eq] at herr ⊢
  cases hf : formatArgs cfg.digits x y (some z) (some (sp.getD cfg.speedPos)) with
  | error e => rw [hf] at herr; cases herr
  | ok w =>
    rw [hf] at herr
    obtain ⟨rfl, -⟩ := formatArgs_ok hf
    -- closing, the pause and the blank line are calm; the `G1` puts the stage at the printed depth
    refine (((Lines.sem (fun cs => Lines.ofEmits (closeIfOpen_emits (fun _ _ => rfl) cfg cs) none) reads_inv).andThen
      (sem_one (.g1 _) (fun _ _ => rfl) fun σ hσ => ?_)).andThen (sem_dwell reads_inv _)).andThen
      (Lines.sem (instr_lines .blank rfl rfl) reads_inv) cs herr
    rw [stepT_g1]
    refine ⟨hσ.abs, hσ.decl, hσ.ldd, ?_, hσ.val⟩
    rintro z' ⟨rfl⟩
    dsimp only [stepFlat, step, zTarget, axisTarget]
    rw [hσ.abs]
    rfl

theorem sem_setVar {t : Tree} {fuel : Nat} {p : String} {ld : Bool} {zp zv : Option Rat} (q : Rat) :
    Sem t fuel (Inv t p ld zp zv) (Inv t p ld zp (some q)) (instrR [.setVar "zcurr" q]) :=
  sem_one _ (fun _ _ => rfl) fun σ hP => by
    rw [stepT_flat t fuel σ _ rfl]
    dsimp only [stepFlat, step]
    rw [if_pos hP.decl]
    refine ⟨hP.abs, hP.decl, hP.ldd, hP.posz, ?_⟩
    rintro z ⟨rfl⟩
    exact lookup_setVal _ _ _

theorem ready_of_inv {t : Tree} {p : String} {z : Rat} {σ : St} (h : Inv t p true (some z) (some z) σ) : Ready t p z σ :=
  ⟨h.abs, (h.ldd rfl).1, (h.ldd rfl).2, h.val z rfl, h.posz z rfl⟩

/-- **the wall loop of the model file, run by the tree controller**: entered with the wall program loaded and bound, the stage
and `$ZCURR` at depth `z`, it leaves the controller ready at `z + n_repeat · q`, `q = fmt₆(deltaz / neff)` (at `z + k · q` after `k` turns:
`execRepG_wall`) -/
theorem sem_wallLoop {t : Tree} {f : Nat} (cfg : Cfg) (c : Col) (i : Nat) (z : Rat) :
    Sem t (f + 1) (Inv t (c.wall i) true (some z) (some z))
      (Ready t (c.wall i) (z + c.nRep.toNat * fmt 6 (c.deltaz / cfg.neff))) (wallLoop cfg c i) := by
  intro cs herr σ hP
  have hr := ready_of_inv hP
  rcases wallLoop_out cfg c i cs herr with ho | ⟨d, ho⟩
  · rw [ho]
    simp only [execStmtsG, execStmtG]
    exact reads_ready _ _ (calm_view t (f + 1) _ .blank rfl) (execRepG_wall t f _ _ _ z σ hr)
  · rw [ho]
    simp only [execStmtsG, execStmtG]
    exact reads_ready _ _ (calm_view t (f + 1) _ .blank rfl) (execRepG_wallD t f d _ _ _ z σ hr)

theorem trenchBlock_split (cfg : Cfg) (c : Col) (nbox i : Nat) (xy : Rat × Rat) (cs : CS) :
    trenchBlock cfg c nbox i xy cs =
      ((((((((((wallPrefix cfg c nbox i xy cs).andThen (wallLoop cfg c i)).andThen (removeOp (c.wall i) 2)).andThen
        (shutterR cfg false)).andThen (loadOp (inCol c (c.floor i)) 2)).andThen (instrR [.msg])).andThen
        (uMove cfg (c.u.map (·.2)) true)).andThen (shutterR cfg true)).andThen (farcallOp cfg (c.floor i))).andThen fun cs =>
        (((shutterR cfg false cs).andThen (uMove cfg (c.u.map (·.1)) false)).andThen (removeOp (c.floor i) 2))) := rfl

/-- **from the compiler to the depth of every wall pass.** For a configuration printing six decimals (`$ZCURR = …` is always
printed with six, the `move_to` before it with `output_digits`) and a tree that holds — under the path the call file loads — an
x / y-only leaf program for the wall of trench `i`: whenever the block prefix compiles, the tree controller, started in absolute
mode with `$ZCURR` declared (the `DVAR` the file begins with), reaches the wall loop *ready* at
`z₀ = fmt₆(transform(…, L·h_box + z_off).z)`: wall program loaded and bound to its leaf file, stage at `z₀`, `$ZCURR = z₀`. -/
theorem wallPrefix_inv {t : Tree} {f : Nat} (cfg : Cfg) (c : Col) (nbox i : Nat) (xy : Rat × Rat) (hd : cfg.digits = 6)
    (hin : InTree t (inCol c (c.wall i)) (c.wall i)) :
    Sem t (f + 1) (Inv t (c.wall i) false none none)
      (Inv t (c.wall i) true (some (fmt 6 (transform cfg xy.1 xy.2 ((nbox : Rat) * c.hBox + c.zOff)).2.2))
        (some (fmt 6 (transform cfg xy.1 xy.2 ((nbox : Rat) * c.hBox + c.zOff)).2.2)))
      (wallPrefix cfg c nbox i xy) := by
  unfold wallPrefix
  exact (((((((sem_comment reads_inv true).andThen (sem_load (f := f) hin)).andThen (sem_msg reads_inv)).andThen
    (sem_shutter reads_inv cfg false)).andThen (sem_uMove reads_inv cfg true)).andThen (hd ▸ sem_moveTo cfg)).andThen
    (sem_setVar _)).andThen (sem_shutter reads_inv cfg true)

theorem wallPrefix_ready {t : Tree} {f : Nat} (cfg : Cfg) (c : Col) (nbox i : Nat) (xy : Rat × Rat) (hd : cfg.digits = 6)
    (hin : InTree t (inCol c (c.wall i)) (c.wall i)) :
    Sem t (f + 1) (Inv t (c.wall i) false none none)
      (Ready t (c.wall i) (fmt 6 (transform cfg xy.1 xy.2 ((nbox : Rat) * c.hBox + c.zOff)).2.2))
      (wallPrefix cfg c nbox i xy) :=
  fun cs herr σ hP => ready_of_inv (wallPrefix_inv cfg c nbox i xy hd hin cs herr σ hP)

theorem wallPart_depth {t : Tree} {f : Nat} (cfg : Cfg) (c : Col) (nbox i : Nat) (xy : Rat × Rat) (hd : cfg.digits = 6)
    (hin : InTree t (inCol c (c.wall i)) (c.wall i)) :
    Sem t (f + 1) (Inv t (c.wall i) false none none)
      (Ready t (c.wall i) (fmt 6 (transform cfg xy.1 xy.2 ((nbox : Rat) * c.hBox + c.zOff)).2.2 +
        c.nRep.toNat * fmt 6 (c.deltaz / cfg.neff)))
      (fun cs => (wallPrefix cfg c nbox i xy cs).andThen (wallLoop cfg c i)) :=
  (wallPrefix_inv cfg c nbox i xy hd hin).andThen (sem_wallLoop cfg c i _)


/-- the z the compiler prints for a level is the glass depth divided by the index ratio -/
theorem transform_z (cfg : Cfg) (x y z : Rat) : (transform cfg x y z).2.2 = z / cfg.neff := by
  simp only [transform, transformK]; ring

/-- a start off by at most `ea` and an increment off by at most `eb` put step `k` off by at most `ea + k · eb` -/
theorem depth_rounding {a a' b b' ea eb : Rat} (k : Nat) (ha : |a' - a| ≤ ea) (hb : |b' - b| ≤ eb) :
    |a' + k * b' - (a + k * b)| ≤ ea + k * eb := by
  have hk : (0 : Rat) ≤ k := Nat.cast_nonneg k
  rw [add_sub_add_comm, ← mul_sub]
  refine (abs_add_le _ _).trans (add_le_add ha ?_)
  rw [abs_mul, abs_of_nonneg hk]
  exact mul_le_mul_of_nonneg_left hb hk

/-- **pass `k` of level `L` is traced within `(k + 1) · 5·10⁻⁷` mm (stage units) of the schedule depth `passZ L k / neff`** — the
depth the controller is ready at after `k` turns of the model file's wall loop (`wallPrefix_inv` + `execRepG_wall`) against the
exact schedule: the start and the increment are printed with six decimals, half a unit of the sixth off each -/
theorem pass_depth_error (cfg : Cfg) (c : Col) (L k : Nat) (x y : Rat) :
    |fmt 6 (transform cfg x y ((L : Rat) * c.hBox + c.zOff)).2.2 + k * fmt 6 (c.deltaz / cfg.neff)
        - passZ c.hBox c.zOff c.deltaz L k / cfg.neff| ≤ (k + 1) / (2 * pow10 6) := by
  rw [transform_z, passZ_div]
  exact (depth_rounding k (fmt_error 6 _) (fmt_error 6 _)).trans_eq (by ring)


/-! non-vacuity of `wallPrefix_inv`: `InTree` holds for a tree with the wall file of trench 1 of column 1 under `trenchCol001/`
and a column with base folder `lab`, and the controller state after the `DVAR` line satisfies the invariant -/
private def demoCol : Col := { index := 0, nboxz := 2, nRep := 5, baseFolder := "lab", inits := [(1, 2)], hBox := 3/40, zOff := -1/50,
                               deltaz := 3/2000, speedClosed := 5, u := none }
private def demoTree : Tree := [("trenchCol001/trench001_WALL.pgm", emit [.g1 { x := some 1, y := some 2, f := some 4 }, .g1 { x := some 1, y := some 3 }])]

/-- `InTree` from its finite parts, computed on the characters of the three strings (`progKeyL`, `resolveL`) -/
theorem inTree_of_chars {t : Tree} {path name id : String} {body : List Stmt}
    (h : progKeyL path.toList = progKeyL name.toList ∧ progKeyL id.toList = progKeyL name.toList ∧
      resolveL t (pathCompsL path.toList) = some id ∧ isLeafXY body = true)
    (hf : t.find id = some body) : InTree t path name := by
  obtain ⟨h1, h2, h3, h4⟩ := h
  exact ⟨by rw [progKey_eq, progKey_eq, h1], id, body, by rw [resolve_eq, h3], hf, by rw [progKey_eq, progKey_eq, h2], h4⟩

example : InTree demoTree (inCol demoCol (demoCol.wall 0)) (demoCol.wall 0) :=
  inTree_of_chars (id := "trenchCol001/trench001_WALL.pgm") (by decide +kernel) rfl

example : Inv demoTree (demoCol.wall 0) false none none ({ declared := ["zcurr"] } : St) :=
  { abs := rfl, decl := (by decide), ldd := fun h => (by cases h), posz := fun z h => (by cases h), val := fun z h => (by cases h) }

/-- invariant for the floor part of a block: absolute mode, (once loaded) the floor program loaded and bound to its x / y-only
leaf file, the stage at depth `z` -/
structure InvF (t : Tree) (p : String) (ld : Bool) (z : Rat) (σ : St) : Prop where
  abs : σ.absMode = true
  ldd : ld = true → σ.loaded.contains (progKey p) = true ∧
    ∃ id body, lookupBound σ.bound (progKey p) = some id ∧ t.find id = some body ∧ progKey id = progKey p ∧ isLeafXY body = true
  posz : σ.pos.z = some z

theorem invF_of_ready {t : Tree} {pw pf : String} {z : Rat} {σ : St} (h : Ready t pw z σ) : InvF t pf false z σ :=
  ⟨h.abs, fun h' => (by cases h'), h.posz⟩

theorem reads_invF {t : Tree} {p : String} {ld : Bool} {z : Rat} : Reads (InvF t p ld z) := by
  intro σ σ' h hP
  obtain ⟨e1, -, -, e4, e5, e6⟩ := view_eq h
  exact ⟨e1 ▸ hP.abs, e4 ▸ e5 ▸ hP.ldd, e6 ▸ hP.posz⟩

theorem semF_remove {t : Tree} {fuel : Nat} {p : String} {ld : Bool} {z : Rat} (name : String) (task : Nat) :
    Sem t fuel (InvF t p ld z) (InvF t p false z) (removeOp name task) := by
  intro cs herr σ hP
  rw [removeOp_out name task cs herr]
  simp only [emit, List.map_cons, List.map_nil, execStmtsG, execStmtG]
  -- `PROGRAM STOP` and `WAIT` do nothing, `REMOVEPROGRAM` changes the list of loaded programs at most
  rw [stepT_flat t fuel σ (.stop task) rfl, stepT_flat t fuel _ (.waitIdle task) rfl]
  obtain ⟨L, e⟩ := remove_view t fuel σ (posixName name)
  show InvF t p false z (stepT t fuel σ (.remove (posixName name))).1
  rw [e]
  exact ⟨hP.abs, fun h => Bool.noConfusion h, hP.posz⟩

theorem semF_load {t : Tree} {f : Nat} {p path : String} {z : Rat} (hin : InTree t path p) :
    Sem t (f + 1) (InvF t p false z) (InvF t p true z) (loadOp path 2) :=
  sem_one (.load 2 path) (loadOp_out path 2) fun σ hP => by
    obtain ⟨e1, -, -, e4, hb⟩ := load_view (f := f) hin.1 hin.2 σ 2
    exact ⟨e1 ▸ hP.abs, fun _ => hb, e4 ▸ hP.posz⟩

theorem semF_farcall {t : Tree} {f : Nat} {p : String} {z : Rat} (cfg : Cfg) :
    Sem t (f + 1) (InvF t p true z) (InvF t p true z) (farcallOp cfg p) := by
  intro cs herr σ hP
  rw [farcallOp_out cfg p cs herr, execStmtsG_append]
  have h1 := sem_dwell (t := t) (fuel := f + 1) reads_invF cfg.shortPause cs rfl σ hP
  simp only [emit, List.map_cons, List.map_nil, execStmtsG, execStmtG]
  exact reads_invF _ _ (farcall_view _ (h1.ldd rfl).2) h1

/-- **the floor is cut at the depth the wall loop ends at**: from the ready state after the wall loop (depth `z`) the floor
prefix brings the controller, without any change of depth, to the state in which the floor program is loaded and bound to its
x / y-only leaf file -/
theorem floorPrefix_at_depth {t : Tree} {f : Nat} (cfg : Cfg) (c : Col) (i : Nat) (z : Rat)
    (hin : InTree t (inCol c (c.floor i)) (c.floor i)) :
    Sem t (f + 1) (Ready t (c.wall i) z) (InvF t (c.floor i) true z) (floorPrefix cfg c i) := by
  have h : Sem t (f + 1) (InvF t (c.floor i) false z) (InvF t (c.floor i) true z) (floorPrefix cfg c i) :=
    (((((semF_remove (c.wall i) 2).andThen (sem_shutter reads_invF cfg false)).andThen (semF_load (f := f) hin)).andThen
      (sem_msg reads_invF)).andThen (sem_uMove reads_invF cfg true)).andThen (sem_shutter reads_invF cfg true)
  exact fun cs herr σ hP => h cs herr σ (invF_of_ready hP)

theorem floorPart_at_depth {t : Tree} {f : Nat} (cfg : Cfg) (c : Col) (i : Nat) (z : Rat)
    (hin : InTree t (inCol c (c.floor i)) (c.floor i)) :
    Sem t (f + 1) (Ready t (c.wall i) z) (InvF t (c.floor i) false z) (floorPart cfg c i) :=
  ((floorPrefix_at_depth cfg c i z hin).andThen (semF_farcall (f := f) cfg)).andThen
    (((sem_shutter reads_invF cfg false).andThen (sem_uMove reads_invF cfg false)).andThen (semF_remove (c.floor i) 2))

/-- **a whole block, compiled and run.** For six-digit output and a tree holding x / y-only leaves for the wall and the floor of
trench `i` under the loaded paths: whenever the block compiles, the tree controller started in absolute mode with `$ZCURR`
declared ends the block at depth `z₀ + n_repeat · q`, the depth the wall loop ends at — no instruction of the block moves the
stage in z except the `move_to` to `z₀` and the `G1 Z$ZCURR` of the wall loop. -/
theorem trenchBlock_depths {t : Tree} {f : Nat} (cfg : Cfg) (c : Col) (nbox i : Nat) (xy : Rat × Rat) (hd : cfg.digits = 6)
    (hw : InTree t (inCol c (c.wall i)) (c.wall i)) (hf : InTree t (inCol c (c.floor i)) (c.floor i)) :
    Sem t (f + 1) (Inv t (c.wall i) false none none)
      (InvF t (c.floor i) false (fmt 6 (transform cfg xy.1 xy.2 ((nbox : Rat) * c.hBox + c.zOff)).2.2 +
        c.nRep.toNat * fmt 6 (c.deltaz / cfg.neff)))
      (trenchBlock cfg c nbox i xy) := by
  rw [funext (trenchBlock_parts cfg c nbox i xy)]
  exact (wallPart_depth cfg c nbox i xy hd hw).andThen (floorPart_at_depth cfg c i _ hf)

/-- `move_to([x, y, None])`: the stage keeps its depth -/
theorem semF_moveToXY {t : Tree} {fuel : Nat} {p : String} {ld : Bool} {z : Rat} (cfg : Cfg) (x y sp : Option Rat) :
    Sem t fuel (InvF t p ld z) (InvF t p ld z) (moveToR cfg x y none sp) :=
  Lines.sem (moveRes_lines (fun _ _ => rfl) (fun _ => rfl) rfl cfg x y none sp fun w hw => by
    obtain ⟨rfl, -⟩ := formatArgs_ok hw
    rfl) reads_invF

/-- **a bed block of a U-trench call file keeps the depth**: the block ends at the depth it is entered at (the depth at which the
last floor was cut) — it positions in x / y only, and its bed program is an x / y-only leaf -/
theorem bedBlock_keeps_depth {t : Tree} {f : Nat} (cfg : Cfg) (c : Col) (k : Nat) (xy : Rat × Rat) (z : Rat)
    (hin : InTree t (inCol c (bedName k)) (bedName k)) :
    Sem t (f + 1) (InvF t (bedName k) false z) (InvF t (bedName k) false z) (bedBlock cfg c k xy) := by
  unfold bedBlock
  exact ((((((((((sem_comment reads_invF true).andThen (sem_shutter reads_invF cfg false)).andThen (semF_load (f := f) hin)).andThen
    (sem_msg reads_invF)).andThen (sem_uMove reads_invF cfg true)).andThen (semF_moveToXY cfg _ _ _)).andThen
    (sem_shutter reads_invF cfg true)).andThen (semF_farcall (f := f) cfg)).andThen (sem_shutter reads_invF cfg false)).andThen
    (sem_uMove reads_invF cfg false)).andThen (semF_remove (bedName k) 2)

private def dCol : Col := { index := 0, nboxz := 2, nRep := 5, baseFolder := "lab", inits := [(1, 2)], hBox := 3/40, zOff := -1/50,
                            deltaz := 3/2000, speedClosed := 5, u := none, upper := true, beds := [(1, 2)] }
private def dLeaf : List Stmt := emit [.g1 { x := some 1, y := some 2, f := some 4 }, .g1 { x := some 1, y := some 3 }]
private def dTree : Tree := [("trenchCol001/trench001_WALL.pgm", dLeaf), ("trenchCol001/trench001_FLOOR.pgm", dLeaf),
                             ("trenchCol001/trench_BED_001.pgm", dLeaf)]

/-- non-vacuity of `trenchBlock_depths` / `bedBlock_keeps_depth`: a U-trench column whose wall, floor and bed files are in the tree -/
example : InTree dTree (inCol dCol (dCol.wall 0)) (dCol.wall 0) ∧ InTree dTree (inCol dCol (dCol.floor 0)) (dCol.floor 0) ∧
    InTree dTree (inCol dCol (bedName 0)) (bedName 0) := by
  -- one evaluation for the three files: the kernel then computes the path components of each file of the tree once
  have h : (progKeyL (inCol dCol (dCol.wall 0)).toList = progKeyL (dCol.wall 0).toList ∧
        progKeyL "trenchCol001/trench001_WALL.pgm".toList = progKeyL (dCol.wall 0).toList ∧
        resolveL dTree (pathCompsL (inCol dCol (dCol.wall 0)).toList) = some "trenchCol001/trench001_WALL.pgm" ∧ isLeafXY dLeaf = true) ∧
      (progKeyL (inCol dCol (dCol.floor 0)).toList = progKeyL (dCol.floor 0).toList ∧
        progKeyL "trenchCol001/trench001_FLOOR.pgm".toList = progKeyL (dCol.floor 0).toList ∧
        resolveL dTree (pathCompsL (inCol dCol (dCol.floor 0)).toList) = some "trenchCol001/trench001_FLOOR.pgm" ∧ isLeafXY dLeaf = true) ∧
      (progKeyL (inCol dCol (bedName 0)).toList = progKeyL (bedName 0).toList ∧
        progKeyL "trenchCol001/trench_BED_001.pgm".toList = progKeyL (bedName 0).toList ∧
        resolveL dTree (pathCompsL (inCol dCol (bedName 0)).toList) = some "trenchCol001/trench_BED_001.pgm" ∧ isLeafXY dLeaf = true) := by
    decide +kernel
  exact ⟨inTree_of_chars h.1 rfl, inTree_of_chars h.2.1 rfl, inTree_of_chars h.2.2 rfl⟩

theorem leafLine_xy (cfg : Cfg) (xy : Rat × Rat) (f : Option Rat) (g9 : Bool) (i : Instr) (h : leafLine cfg xy f g9 = .ok i) :
    ∃ w : G1W, i = .g1 w ∧ w.z = none ∧ w.zvar = none ∧ w.u = none ∧ w.x.isSome = true ∧ w.y.isSome = true := by
  simp only [leafLine] at h
  cases hf : formatArgs cfg.digits (some (transform cfg xy.1 xy.2 0).1) (some (transform cfg xy.1 xy.2 0).2.1) none f with
  | error e => rw [hf] at h; cases h
  | ok w =>
    rw [hf] at h
    obtain ⟨rfl, -⟩ := formatArgs_ok hf
    cases h
    exact ⟨_, rfl, rfl, rfl, rfl, rfl, rfl⟩

/-- **what `export_array2d` writes is an x / y-only leaf program**: one `G1` per point, without Z, `$`-variable or U word (and with
an X and a Y word: `leafLine_xy`); so the wall, floor and bed files are leaves of the exported tree in the sense of
`tree_discipline` (`isLeafBody`) and of `wall_loop_depths` (`isLeafXY`: a wall pass never changes the depth) -/
theorem leafFile_isLeafXY (cfg : Cfg) (pts : List (Rat × Rat)) (speed : Rat) (decel : List Bool) (is : List Instr)
    (h : leafFile cfg pts speed decel = .ok is) : isLeafXY (emit is) = true ∧ isLeafBody (emit is) = true ∧ is.length = pts.length := by
  unfold leafFile at h
  generalize 0 = k at h
  induction pts generalizing k is with
  | nil => cases h; exact ⟨rfl, rfl, rfl⟩
  | cons xy rest ih =>
    rw [leafLines] at h
    split at h
    · cases h
    · rename_i i hl
      split at h
      · cases h
      · rename_i is' hr
        cases h
        obtain ⟨w, rfl, hz, hzv, hu, -, -⟩ := leafLine_xy cfg xy _ _ i hl
        obtain ⟨i1, i2, i3⟩ := ih is' (k + 1) hr
        refine ⟨?_, ?_, congrArg (· + 1) i3⟩
        · show (w.z.isNone && w.zvar.isNone && w.u.isNone && isLeafXY (emit is')) = true
          rw [hz, hzv, hu]; exact i1
        · show (w.zvar.isNone && w.u.isNone && isLeafBody (emit is')) = true
          rw [hzv, hu]; exact i2

/-- the shipped headers (`Gen.headers`, generated from `/repo`) are disciplined from a closed shutter, whatever the tree's leaves are -/
theorem shipped_headers_disciplined : ∀ h ∈ Femto.Gen.headers, ∀ b : Bool,
    discStmts (fun _ => b) false (emit h.2.2) = some false := by decide

/-- non-vacuity: a column with two levels, two trenches and a `u` list under a mirrored configuration compiles without error
into a disciplined file (evaluated by the kernel on the model) -/
example : (let cfg : Cfg := { header := Femto.Gen.header_uwe, flipX := true, neff := 3/2, shortPause := some (1/20) }
    let c : Col := { index := 0, nboxz := 2, nRep := 5, baseFolder := "lab", inits := [(1, 2), (1, 3)], hBox := 3/40, zOff := -1/50,
                     deltaz := 3/2000, speedClosed := 5, u := some (28, 59/2) }
    let cu : Col := { c with upper := true, beds := [(1, 2), (1, 5/2)] }
    (farcallBody cfg c {}).err.isNone && disciplined (fun _ => true) (farcallFile cfg c).1 &&
      (farcallBody cfg cu {}).err.isNone && disciplined (fun _ => true) (farcallFile cfg cu).1) = true := by decide +kernel

/-- non-vacuity: the default column (h_box 0.075, z_off -0.020, deltaz 0.0015) needs 64 passes per box -/
example : nRepeat (75/1000) (-20/1000) (15/10000) = 64 := by decide +kernel

end Femto.C06
