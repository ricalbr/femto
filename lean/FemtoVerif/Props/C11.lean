/-
C11 — the reported point matrix is the trajectory minus exact consecutive repeats.
-/
import FemtoVerif.Model.Filter
import Mathlib.Data.List.Destutter

namespace Femto.C11
open Femto List

variable {α : Type} [DecidableEq α]

private theorem cons_applyMask_go (p : α) (l : List α) :
    p :: applyMask l (diffMask.go p l) = l.destutter' (· ≠ ·) p := by
  induction l generalizing p with
  | nil => rfl
  | cons y ys ih =>
    rw [diffMask.go, applyMask]
    by_cases h : y = p
    · subst h; rw [destutter'_cons_neg _ (not_not.mpr rfl), ← ih]; simp
    · rw [destutter'_cons_pos _ (Ne.symm h), ← ih]; simp [h]

/-- **Spec equality.** `unique_filter` is exactly "greedily remove consecutive duplicates". -/
theorem uf_eq_destutter (l : List α) : uniqueFilter l = l.destutter (· ≠ ·) := by
  cases l with
  | nil => rfl
  | cons x xs => exact cons_applyMask_go x xs

theorem uf_head? (l : List α) : (uniqueFilter l).head? = l.head? := by
  cases l <;> rfl

/-- order is preserved -/
theorem uf_sublist (l : List α) : uniqueFilter l <+ l := by
  rw [uf_eq_destutter]; exact destutter_sublist _ l

theorem uf_no_adjacent_equal (l : List α) : (uniqueFilter l).IsChain (· ≠ ·) := by
  rw [uf_eq_destutter]; exact isChain_destutter _ l

private theorem diffMask_go_getElem? (p : α) (l : List α) (i : Nat) (h : i < l.length) :
    (diffMask.go p l)[i]? = some (decide (l[i]? ≠ (p :: l)[i]?)) := by
  induction l generalizing p i with
  | nil => cases h
  | cons y ys ih =>
    cases i with
    | zero => simp [diffMask.go]
    | succ i => exact ih y i (Nat.lt_of_succ_lt_succ h)

/-- a row after the first is kept iff it differs, in any field, from its predecessor in the **recorded** trajectory -/
theorem mask_spec (l : List α) (i : Nat) (h : i < l.length) :
    (diffMask l)[i]? = some (decide (i = 0 ∨ l[i]? ≠ l[i-1]?)) := by
  cases l with
  | nil => simp at h
  | cons x xs =>
    cases i with
    | zero => simp [diffMask]
    | succ i =>
      simp only [diffMask, List.getElem?_cons_succ, Nat.add_sub_cancel]
      rw [diffMask_go_getElem? x xs i (by simpa using h)]
      simp

/-- nothing but repeats is removed -/
theorem uf_longest (l m : List α) (hm : m <+ l) (hc : m.IsChain (· ≠ ·)) :
    m.length ≤ (uniqueFilter l).length := by
  rw [uf_eq_destutter]; exact hc.length_le_length_destutter_ne hm

theorem uf_idempotent (l : List α) : uniqueFilter (uniqueFilter l) = uniqueFilter l := by
  simp only [uf_eq_destutter]; exact destutter_idem l _

theorem uf_nil : uniqueFilter ([] : List α) = [] := rfl
theorem uf_single (a : α) : uniqueFilter [a] = [a] := rfl

private theorem getLast?_destutter' (s : α) (l : List α) :
    (l.destutter' (· ≠ ·) s).getLast? = (s :: l).getLast? := by
  induction l generalizing s with
  | nil => rfl
  | cons w ws ih =>
    by_cases h : s = w
    · subst h; rw [destutter'_cons_neg _ (not_not.mpr rfl), ih, List.getLast?_cons_cons]
    · rw [destutter'_cons_pos _ h, List.getLast?_cons, ih, ← List.getLast?_cons]

theorem uf_getLast? (l : List α) : (uniqueFilter l).getLast? = l.getLast? := by
  rw [uf_eq_destutter]
  cases l with
  | nil => rfl
  | cons x xs => exact getLast?_destutter' x xs

section views
variable {K : Type} [DecidableEq K]

/-- `lastpt` (read from the raw arrays) is the last **reported** point -/
theorem lastpt_eq_last_reported (raw : List (Row K)) :
    lastpt raw = (points raw).getLast?.map fun r => (r.x, r.y, r.z) := by
  simp [lastpt, points, uf_getLast?]

theorem last_xyz_eq_lastpt (raw : List (Row K)) :
    (lastx raw, lasty raw, lastz raw)
      = ((lastpt raw).map (·.1), (lastpt raw).map (·.2.1), (lastpt raw).map (·.2.2)) := by
  simp [lastx, lasty, lastz, xs, ys, zs, lastpt_eq_last_reported, List.getLast?_map, Option.map_map,
    Function.comp_def]

private theorem destutter'_head (s : α) (l : List α) :
    l.destutter' (· ≠ ·) s = s :: (l.destutter' (· ≠ ·) s).tail := by
  induction l with
  | nil => rfl
  | cons w ws ih =>
    rw [destutter'_cons]
    split
    · rfl
    · exact ih

private theorem destutter_map_destutter' {β : Type} [DecidableEq β] (f : α → β) (p : α) (l : List α) :
    ((l.destutter' (· ≠ ·) p).map f).destutter (· ≠ ·) = (l.map f).destutter' (· ≠ ·) (f p) := by
  induction l generalizing p with
  | nil => rfl
  | cons y ys ih =>
    rw [List.map_cons]
    by_cases h : p = y
    · subst h; rw [destutter'_cons_neg _ (not_not.mpr rfl), destutter'_cons_neg _ (not_not.mpr rfl), ih]
    · -- `p` is kept; whether `f y` survives next to `f p` is decided in the same way on both sides
      have hy := ih y
      rw [destutter'_head y ys, List.map_cons, destutter_cons'] at hy
      rw [destutter'_cons_pos _ h, List.map_cons, destutter_cons', destutter'_head y ys, List.map_cons]
      by_cases hf : f p = f y
      · rw [destutter'_cons_neg _ (not_not.mpr hf), destutter'_cons_neg _ (not_not.mpr hf), hf, hy]
      · rw [destutter'_cons_pos _ hf, destutter'_cons_pos _ hf, hy]

/-- the first pass removes nothing that the second would keep -/
private theorem destutter_map_destutter {β : Type} [DecidableEq β] (f : α → β) (l : List α) :
    (map f (l.destutter (· ≠ ·))).destutter (· ≠ ·) = (map f l).destutter (· ≠ ·) := by
  cases l with
  | nil => rfl
  | cons x xs => exact destutter_map_destutter' f x xs

/-- the open-shutter path is a function of the **reported** matrix -/
theorem path3d_of_points [OfNat K 0] (raw : List (Row K)) : path3d (points raw) = path3d raw := by
  simp only [path3d, points, uf_eq_destutter]
  rw [destutter_map_destutter]

/-- and it only contains rows whose shutter value is non-zero, in trajectory order -/
theorem path3d_open [OfNat K 0] (raw : List (Row K)) :
    ∃ sel : List (K × K × K × K), sel <+ raw.map proj4 ∧ (∀ r ∈ sel, r.2.2.2 ≠ 0) ∧
      path3d raw = sel.map fun r => (r.1, r.2.1, r.2.2.1) := by
  refine ⟨(uniqueFilter (raw.map proj4)).filter (fun r => decide (r.2.2.2 ≠ 0)), ?_, ?_, rfl⟩
  · exact (List.filter_sublist).trans (uf_sublist _)
  · intro r hr; simpa using (List.mem_filter.mp hr).2

end views

section split
variable {β : Type}

/-- every fact about `pieces` below is an induction over this -/
theorem pieces_cons (a : β) (b : Bool) (l : List (β × Bool)) :
    ∃ run rest, pieces ((a, b) :: l) = (b, a :: run) :: rest ∧
      (pieces l = (b, run) :: rest ∨ (run = [] ∧ pieces l = rest ∧ ∀ p ∈ rest.head?, p.1 ≠ b)) := by
  simp only [pieces]
  cases hp : pieces l with
  | nil => exact ⟨[], [], rfl, .inr ⟨rfl, rfl, nofun⟩⟩
  | cons q rest =>
    obtain ⟨b', run⟩ := q
    by_cases hb : b = b'
    · subst hb; exact ⟨run, rest, by simp, .inl rfl⟩
    · exact ⟨[], (b', run) :: rest, by simp [hb], .inr ⟨rfl, rfl, by rintro p ⟨⟩; exact Ne.symm hb⟩⟩

/-- nothing lost, nothing reordered -/
theorem pieces_flatten (l : List (β × Bool)) :
    (pieces l).flatMap (fun p => p.2.map (fun a => (a, p.1))) = l := by
  induction l with
  | nil => rfl
  | cons hd t ih =>
    obtain ⟨run, rest, h, h' | ⟨rfl, h', _⟩⟩ := pieces_cons hd.1 hd.2 t <;> rw [h] <;> rw [h'] at ih <;>
      simpa using ih

theorem pieces_nonempty (l : List (β × Bool)) : ∀ p ∈ pieces l, p.2 ≠ [] := by
  induction l with
  | nil => nofun
  | cons hd t ih =>
    obtain ⟨run, rest, h, h' | ⟨rfl, h', _⟩⟩ := pieces_cons hd.1 hd.2 t <;> rw [h] <;> rw [h'] at ih <;>
      rintro p (_ | ⟨_, hp⟩)
    · nofun
    · exact ih p (.tail _ hp)
    · nofun
    · exact ih p hp

/-- every piece is a **maximal** run -/
theorem pieces_alternate (l : List (β × Bool)) : (pieces l).IsChain (fun p q => p.1 ≠ q.1) := by
  induction l with
  | nil => exact .nil
  | cons hd t ih =>
    obtain ⟨run, rest, h, h' | ⟨rfl, h', hne⟩⟩ := pieces_cons hd.1 hd.2 t <;> rw [h] <;> rw [h'] at ih
    · cases rest with
      | nil => exact .singleton _
      | cons r rs => rw [List.isChain_cons_cons] at ih ⊢; exact ih
    · cases rest with
      | nil => exact .singleton _
      | cons r rs => exact List.isChain_cons_cons.mpr ⟨(hne r rfl).symm, ih⟩

private theorem selected_after {p : Bool × List β} {t : List (Bool × List β)}
    (hc : (p :: t).IsChain fun p q => p.1 ≠ q.1) (hp : p.1 = false) : ∀ r ∈ t.head?, r.1 = true := by
  cases t with
  | nil => nofun
  | cons q rs => rintro r ⟨⟩; simpa [hp] using (List.isChain_cons_cons.mp hc).1.symm

private theorem everyOther_alt : ∀ ps : List (Bool × List β), ps.IsChain (fun p q => p.1 ≠ q.1) →
    (∀ p ∈ ps.head?, p.1 = true) → everyOther (ps.map (·.2)) = (ps.filter (·.1)).map (·.2)
  | [], _, _ => rfl
  | [p], _, h => by simp [everyOther, h p rfl]
  | p :: q :: t, hc, h => by
    obtain ⟨hpq, hc⟩ := List.isChain_cons_cons.mp hc
    have hp : p.1 = true := h p rfl
    have hq : q.1 = false := by simpa [hp] using hpq.symm
    simp [everyOther, hp, hq, everyOther_alt t hc.tail (selected_after hc hq)]

/-- **split_mask returns exactly the maximal runs of selected elements, in order.**
(`pieces` is characterised by `pieces_flatten`, `pieces_nonempty`, `pieces_alternate`.) -/
theorem splitMask_eq_true_pieces (arr : List β) (m0 : Bool) (mask : List Bool) :
    splitMask arr (m0 :: mask)
      = some (((pieces (arr.zip (m0 :: mask))).filter (·.1)).map (·.2)) := by
  simp only [splitMask]
  congr 1
  have hch := pieces_alternate (arr.zip (m0 :: mask))
  have hhead : ∀ p ∈ (pieces (arr.zip (m0 :: mask))).head?, p.1 = m0 := by
    cases arr with
    | nil => nofun
    | cons x xs =>
      obtain ⟨run, rest, h, _⟩ := pieces_cons x m0 (xs.zip mask)
      rw [List.zip_cons_cons, h]
      rintro p ⟨⟩; rfl
  cases m0 with
  | true => exact everyOther_alt _ hch hhead
  | false =>
    cases hpp : pieces (arr.zip (false :: mask)) with
    | nil => rfl
    | cons p t =>
      rw [hpp] at hch hhead
      have hp : p.1 = false := hhead p rfl
      simp only [Bool.false_eq_true, if_false, List.map_cons, List.tail_cons, List.filter_cons, hp]
      exact everyOther_alt t hch.tail (selected_after hch hp)

/-- the runs concatenate to the selected subsequence -/
theorem splitMask_flatten (arr : List β) (m0 : Bool) (mask : List Bool) (res : List (List β))
    (h : splitMask arr (m0 :: mask) = some res) :
    res.flatten = ((arr.zip (m0 :: mask)).filter (·.2)).map (·.1) := by
  rw [splitMask_eq_true_pieces] at h
  injection h with h; subst h
  generalize hl : arr.zip (m0 :: mask) = l
  have key : ∀ ps : List (Bool × List β),
      ((ps.filter (·.1)).map (·.2)).flatten
        = ((ps.flatMap (fun p => p.2.map (fun a => (a, p.1)))).filter (·.2)).map (·.1) := by
    intro ps
    induction ps with
    | nil => simp
    | cons p t ih =>
      obtain ⟨b, run⟩ := p
      cases b <;> simp [ih, List.filter_map, Function.comp_def]
  rw [key, pieces_flatten]

theorem splitMask_nonempty (arr : List β) (m0 : Bool) (mask : List Bool) (res : List (List β))
    (h : splitMask arr (m0 :: mask) = some res) : ∀ r ∈ res, r ≠ [] := by
  rw [splitMask_eq_true_pieces] at h
  injection h with h; subst h
  intro r hr
  obtain ⟨p, hp, rfl⟩ := List.mem_map.mp hr
  exact pieces_nonempty _ p (List.mem_filter.mp hp).1

/-- Python: `IndexError` on `mask[0]` -/
theorem splitMask_empty (arr : List β) : splitMask arr [] = none := rfl

end split

example : uniqueFilter [1, 1, 2, 2, 2, 3, 1, 1] = [1, 2, 3, 1] := by decide
-- cancelling deltas: (+1, -1) in two columns sums to zero but the row differs, so it is kept
example : uniqueFilter [((0:Int), (0:Int)), (1, -1), (1, -1), (0, 0)] = [(0, 0), (1, -1), (0, 0)] := by decide
example : splitMask [10, 11, 12, 13, 14, 15] [false, true, true, false, true, false]
    = some [[11, 12], [14]] := by decide
example : splitMask [10, 11, 12] [true, true, true] = some [[10, 11, 12]] := by decide
example : splitMask [10, 11, 12] [false, false, false] = some [] := by decide

end Femto.C11
