/-
C07 — trench floor tool-paths terminate, stay inside the block and cover it.
PARTIAL: proved are the queue logic of `toolpath` and the metric facts that turn "insets at spacing δ + hatching at
spacing δ" into "no point farther than δ from the path".  That GEOS insets are metric erosions (up to the 1e-5
simplification) is sampled.
-/
import FemtoVerif.Model.Floor
import FemtoVerif.Proofs.Counting
import Mathlib.Topology.MetricSpace.HausdorffDistance
import Mathlib.Topology.Order.IntermediateValue
import Mathlib.Analysis.Convex.PathConnected
import Mathlib.Analysis.Normed.Affine.Convex
import Mathlib.Tactic.Linarith
import Mathlib.Tactic.Ring

namespace Femto.C07
open Femto.Floor

/-- `Reach s x`: `x` is a non-empty polygon obtained from `s` by repeated insetting through non-empty polygons -/
inductive Reach : Shape → Shape → Prop
  | self {s : Shape} (h : s.empty = false) : Reach s s
  | kid {s k x : Shape} (h : s.empty = false) (hk : k ∈ s.kids) (r : Reach k x) : Reach s x

theorem Reach.nonempty_left {s x : Shape} (r : Reach s x) : s.empty = false := by cases r <;> assumption

theorem Reach.nonempty_right {s x : Shape} (r : Reach s x) : x.empty = false := by
  induction r with
  | self h => exact h
  | kid _ _ _ ih => exact ih

theorem Reach.trans {a b c : Shape} (r₁ : Reach a b) (r₂ : Reach b c) : Reach a c := by
  induction r₁ with
  | self _ => exact r₂
  | kid h hk _ ih => exact Reach.kid h hk (ih r₂)

/-- the invariant of the loop: every polygon reachable from the block is already a contour or has an ancestor-or-self
waiting in the queue -/
structure Inv (b : Shape) (st : St) : Prop where
  frontier : ∀ x, Reach b x → Yield.contour x ∈ st.out ∨ ∃ a ∈ st.queue, Reach a x
  outs : ∀ y ∈ st.out, ∃ x, y = .contour x ∧ Reach b x
  queued : ∀ a ∈ st.queue, a = b ∨ ∃ p, Reach b p ∧ a ∈ p.kids

theorem inv_init (b : Shape) : Inv b { queue := [b], out := [] } where
  frontier _ r := .inr ⟨b, List.mem_singleton_self b, r⟩
  outs _ hy := nomatch hy
  queued _ ha := .inl (List.mem_singleton.mp ha)

theorem popStep_cons (c : Shape) (q : List Shape) (out : List Yield) :
    popStep ⟨c :: q, out⟩ = if c.empty then ⟨q, out⟩ else ⟨q ++ c.kids, out ++ [.contour c]⟩ := rfl

theorem inv_step {b : Shape} {st : St} (hb : b.empty = false) (h : Inv b st) : Inv b (popStep st) := by
  obtain ⟨_ | ⟨c, q⟩, out⟩ := st
  · exact h
  obtain ⟨hf, ho, hq⟩ := h
  rw [popStep_cons]
  split_ifs with hc
  · -- an empty polygon is dropped: nothing is reached through it
    refine ⟨fun x r => (hf x r).imp_right ?_, ho, fun a ha => hq a (List.mem_cons_of_mem c ha)⟩
    rintro ⟨a, ha, ra⟩
    rcases List.mem_cons.mp ha with rfl | ha
    · cases hc.symm.trans ra.nonempty_left
    · exact ⟨a, ha, ra⟩
  · rw [Bool.not_eq_true] at hc
    have rc : Reach b c := by
      rcases hq c List.mem_cons_self with rfl | ⟨p, rp, hcp⟩
      · exact .self hb
      · exact rp.trans (.kid rp.nonempty_right hcp (.self hc))
    refine ⟨fun x r => ?_, fun y hy => ?_, fun a ha => ?_⟩
    · obtain ho | ⟨a, ha, ra⟩ := hf x r
      · exact .inl (List.mem_append_left _ ho)
      · rcases List.mem_cons.mp ha with rfl | ha
        · cases ra with
          | self _ => exact .inl (List.mem_append_right _ (List.mem_singleton_self _))
          | kid _ hk rk => exact .inr ⟨_, List.mem_append_right _ hk, rk⟩
        · exact .inr ⟨a, List.mem_append_left _ ha, ra⟩
    · rcases List.mem_append.mp hy with hy | hy
      · exact ho y hy
      · exact ⟨c, List.mem_singleton.mp hy, rc⟩
    · rcases List.mem_append.mp ha with ha | ha
      · exact hq a (List.mem_cons_of_mem c ha)
      · exact .inr ⟨c, rc, ha⟩

theorem inv_loop {b : Shape} (hb : b.empty = false) (n : Nat) {st : St} (h : Inv b st) : Inv b (loop n st) := by
  induction n generalizing st with
  | zero => exact h
  | succ n ih => exact ih (inv_step hb h)

theorem mem_hatchAll {drawn : Shape → Bool} {q : List Shape} {y : Yield} :
    y ∈ hatchAll drawn q ↔ ∃ a ∈ q, a.empty = false ∧ drawn a = true ∧ .hatch a = y := by
  simp only [hatchAll, List.mem_map, List.mem_filter, Bool.and_eq_true, Bool.not_eq_eq_eq_not, Bool.not_true,
    and_assoc]

/-- **inset contours first, hatching last** -/
theorem contours_first (drawn : Shape → Bool) (n : Nat) (b : Shape) (hb : b.empty = false) :
    ∃ cs hs, toolpath drawn n b = cs ++ hs ∧ (∀ y ∈ cs, ∃ x, y = .contour x) ∧ (∀ y ∈ hs, ∃ x, y = .hatch x) := by
  have h := inv_loop hb n (inv_init b)
  refine ⟨_, _, rfl, ?_, ?_⟩
  · intro y hy
    obtain ⟨x, hx, _⟩ := h.outs y hy
    exact ⟨x, hx⟩
  · intro y hy
    obtain ⟨a, -, -, -, rfl⟩ := mem_hatchAll.mp hy
    exact ⟨a, rfl⟩

/-- **every polyline comes from an inset of the block**: a contour is the ring of a polygon reachable from the block; a
hatched polygon is non-empty and is the block itself or a part of the inset of a reachable polygon -/
theorem yields_from_block (drawn : Shape → Bool) (n : Nat) (b : Shape) (hb : b.empty = false) :
    ∀ y ∈ toolpath drawn n b,
      (∃ x, y = .contour x ∧ Reach b x) ∨
      (∃ a, y = .hatch a ∧ a.empty = false ∧ (a = b ∨ ∃ p, Reach b p ∧ a ∈ p.kids)) := by
  have h := inv_loop hb n (inv_init b)
  intro y hy
  simp only [toolpath, List.mem_append] at hy
  rcases hy with hy | hy
  · exact Or.inl (h.outs y hy)
  · obtain ⟨a, haq, hae, -, rfl⟩ := mem_hatchAll.mp hy
    exact Or.inr ⟨a, rfl, hae, h.queued a haq⟩

/-- **the yields cover every inset** (frontier property): each polygon reachable from the block is itself a contour, or it
or one of its ancestors is handed to the hatching — whatever the number of turns and however the insets split -/
theorem frontier (drawn : Shape → Bool) (n : Nat) (b : Shape) (hb : b.empty = false) (x : Shape) (r : Reach b x) :
    Yield.contour x ∈ toolpath drawn n b ∨
    ∃ a, Reach a x ∧ (drawn a = true → Yield.hatch a ∈ toolpath drawn n b) ∧ (a = b ∨ ∃ p, Reach b p ∧ a ∈ p.kids) := by
  have h := inv_loop hb n (inv_init b)
  rcases h.frontier x r with ho | ⟨a, ha, ra⟩
  · exact Or.inl (List.mem_append_left _ ho)
  · exact Or.inr ⟨a, ra, fun hd => List.mem_append_right _ (mem_hatchAll.mpr ⟨a, ha, ra.nonempty_left, hd, rfl⟩),
      h.queued a ha⟩

theorem popStep_out (st : St) : st.out <+: (popStep st).out := by
  obtain ⟨_ | ⟨c, q⟩, out⟩ := st
  · exact List.prefix_rfl
  · rw [popStep_cons]
    split_ifs
    · exact List.prefix_rfl
    · exact List.prefix_append _ _

theorem loop_out (m : Nat) (st : St) : st.out <+: (loop m st).out := by
  induction m generalizing st with
  | zero => exact List.prefix_rfl
  | succ m ih => exact (popStep_out st).trans (ih _)

/-- with at least one turn the block's own outline is the first polyline -/
theorem block_is_first_contour (drawn : Shape → Bool) (n : Nat) (b : Shape) (hb : b.empty = false) :
    ∃ rest, toolpath drawn (n + 1) b = Yield.contour b :: rest := by
  have e : popStep ⟨[b], []⟩ = ⟨b.kids, [.contour b]⟩ := by rw [popStep_cons, hb]; rfl
  obtain ⟨rest, h⟩ := ((loop_out n _).trans (List.prefix_append _ _) :
    (popStep ⟨[b], []⟩).out <+: toolpath drawn (n + 1) b)
  rw [e] at h
  exact ⟨rest, h.symm⟩

/-- without the `if not polygon_list: break` guard this is an `IndexError`: the first inset is empty, three turns are asked -/
example : loopOld 3 { queue := [.mk 0 false [.mk 1 true []]], out := [] } = none := by decide
/-- with the guard the same input yields the outline and stops -/
example : (toolpath (fun _ => true) 3 (.mk 0 false [.mk 1 true []])).length = 1 := by decide
/-- a block that splits when inset: both parts are served (non-vacuity of `frontier`) -/
example : (toolpath (fun _ => true) 2 (.mk 0 false [.mk 1 false [.mk 3 true []], .mk 2 false [.mk 4 false []]])).length = 3 := by decide

section metric
variable {E : Type} [PseudoMetricSpace E]

/-- the inset by `a` as a point set: metric erosion -/
def erode (P : Set E) (a : ℝ) : Set E := {p | Metric.ball p a ⊆ P}
/-- `buffer(b)` as a point set -/
def dilate (A : Set E) (b : ℝ) : Set E := {p | ∃ x ∈ A, dist p x ≤ b}

/-- insets are nested, and all lie in the block -/
theorem erode_mono (P : Set E) {a a' : ℝ} (h : a ≤ a') : erode P a' ⊆ erode P a := by
  intro p hp q hq
  exact hp (Metric.ball_subset_ball h hq)

theorem erode_subset (P : Set E) {a : ℝ} (ha : 0 < a) : erode P a ⊆ P := by
  intro p hp
  exact hp (Metric.mem_ball_self ha)

/-- **the hatching region lies inside the block**: the `k`-th inset grown by `1.05 δ` is inside the inset of depth
`(k − 1.05) δ`, hence inside the block as soon as `k ≥ 2` -/
theorem dilate_erode_subset (P : Set E) {a b : ℝ} : dilate (erode P a) b ⊆ erode P (a - b) := by
  rintro p ⟨x, hx, hpx⟩ q hq
  apply hx
  rw [Metric.mem_ball] at hq ⊢
  have := dist_triangle q p x
  linarith

theorem hatch_region_inside (P : Set E) {δ : ℝ} (hδ : 0 < δ) (k : ℕ) (hk : 2 ≤ k) :
    dilate (erode P (k * δ)) (1.05 * δ) ⊆ P := by
  refine (dilate_erode_subset P).trans (erode_subset P (sub_pos.mpr (mul_lt_mul_of_pos_right ?_ hδ)))
  exact (by norm_num : (1.05 : ℝ) < 2).trans_le (by exact_mod_cast hk)

end metric

section cover
variable {E : Type} [NormedAddCommGroup E] [NormedSpace ℝ E]
open Metric

theorem segment_ivt {g : E → ℝ} (hg : Continuous g) (p b : E) {t : ℝ} (ht : t ∈ Set.uIcc (g p) (g b)) :
    ∃ q, g q = t ∧ dist p q + dist q b = dist p b := by
  -- the image of the segment is connected, so it is an interval
  obtain ⟨q, hq, rfl⟩ := ((convex_segment (𝕜 := ℝ) p b).isPreconnected.image g hg.continuousOn).ordConnected.uIcc_subset
    ⟨p, left_mem_segment ℝ p b, rfl⟩ ⟨b, right_mem_segment ℝ p b, rfl⟩ ht
  exact ⟨q, rfl, dist_add_dist_of_mem_segment hq⟩

/-- **walking from a point towards the nearest outside point one meets every smaller depth on the way** (intermediate value
theorem along the segment): for `0 ≤ t ≤ depth p` there is a point of depth exactly `t` within `depth p − t + ε` of `p`.
Here `depth q = infDist q S`, `S` the complement of the block. -/
theorem level_within (S : Set E) (hS : S.Nonempty) (p : E) (t ε : ℝ) (ht0 : 0 ≤ t) (ht : t ≤ infDist p S) (hε : 0 < ε) :
    ∃ q, infDist q S = t ∧ dist p q ≤ infDist p S - t + ε := by
  obtain ⟨b, hb, hpb⟩ := (infDist_lt_iff hS).mp (lt_add_of_pos_right (infDist p S) hε)
  obtain ⟨q, hq, hd⟩ := segment_ivt (continuous_infDist_pt S) p b (t := t)
    (by rw [infDist_zero_of_mem hb]; exact Set.mem_uIcc_of_ge ht0 ht)
  have : infDist q S ≤ dist q b := infDist_le_dist_of_mem hb
  exact ⟨q, hq, by linarith⟩

theorem near_multiple {y d : ℝ} (hy : 0 ≤ y) (hd : 0 < d) : |y - (⌊(y + d / 2) / d⌋₊ : ℝ) * d| ≤ d / 2 := by
  -- with `n` the floor, `n d ≤ y + d/2 < n d + d`
  obtain ⟨hlo, hhi⟩ := floor_div_bounds (add_nonneg hy (half_pos hd).le) hd
  rw [add_one_mul, ← lt_sub_iff_add_lt, add_sub_assoc, sub_half, ← sub_lt_iff_lt_add'] at hhi
  exact abs_le.mpr ⟨neg_le_sub_iff_le_add.mpr hlo, hhi.le⟩

/-- **every abscissa of the block's bounding box is within δ/2 of one of the `2 + ⌊w/δ⌋` hatch lines** `x0 + i δ` -/
theorem hatch_line_within (x0 w δ x : ℝ) (hδ : 0 < δ) (hx0 : x0 ≤ x) (hx1 : x ≤ x0 + w) :
    ∃ i : ℕ, i < 2 + ⌊w / δ⌋₊ ∧ |x - (x0 + i * δ)| ≤ δ / 2 := by
  have hy : 0 ≤ x - x0 := sub_nonneg.mpr hx0
  have hyw : x - x0 ≤ w := sub_le_iff_le_add'.mpr hx1
  -- the line nearest to `x`; it is at most `⌊(w + δ) / δ⌋` steps away
  refine ⟨⌊(x - x0 + δ / 2) / δ⌋₊, ?_, by rw [← sub_sub]; exact near_multiple hy hδ⟩
  have h1 : ⌊(x - x0 + δ / 2) / δ⌋₊ ≤ ⌊w / δ + 1⌋₊ := Nat.floor_mono <| by
    rw [← div_add_same hδ.ne']
    exact div_le_div_of_nonneg_right (add_le_add hyw (half_le_self hδ.le)) hδ.le
  rw [Nat.floor_add_one (div_nonneg (hy.trans hyw) hδ.le)] at h1
  omega

/-- **coverage**: let `path` contain (i) the outline, met by every segment from a block point to an outside point,
(ii) for `1 ≤ k < n` the points of depth exactly `k δ` (the `k`-th inset contours), and (iii) within `δ/2` of every point of
depth `≥ n δ` a hatch point.  Then every point of the block is within `δ` (+ any `ε`) of the path. -/
theorem coverage {P : Set E} (hP : Pᶜ.Nonempty) (δ : ℝ) (hδ : 0 < δ) (n : ℕ) (path : Set E)
    (houtline : ∀ p ∈ P, ∀ b, b ∉ P → ∃ q ∈ path, dist p q ≤ dist p b)
    (hcont : ∀ k : ℕ, 1 ≤ k → k < n → ∀ q, infDist q Pᶜ = k * δ → q ∈ path)
    (hhatch : ∀ p, n * δ ≤ infDist p Pᶜ → ∃ q ∈ path, dist p q ≤ δ / 2) :
    ∀ p ∈ P, ∀ ε > 0, ∃ q ∈ path, dist p q ≤ δ + ε := by
  intro p hp ε hε
  by_cases hdeep : n * δ ≤ infDist p Pᶜ
  · obtain ⟨q, hq, h⟩ := hhatch p hdeep
    exact ⟨q, hq, h.trans ((half_le_self hδ.le).trans (le_add_of_nonneg_right hε.le))⟩
  -- otherwise the depth of `p` lies between `k δ` and `(k + 1) δ` for some `k < n`
  obtain ⟨hkl, hkr⟩ := floor_div_bounds (x := infDist p Pᶜ) infDist_nonneg hδ
  generalize ⌊infDist p Pᶜ / δ⌋₊ = k at hkl hkr
  rw [add_one_mul] at hkr
  have hkn : k < n := Nat.cast_lt.mp (lt_of_mul_lt_mul_right (hkl.trans_lt (not_le.mp hdeep)) hδ.le)
  rcases k.eq_zero_or_pos with rfl | hk0
  · -- shallower than one spacing: the outline is that close
    rw [Nat.cast_zero, zero_mul, zero_add] at hkr
    obtain ⟨b, hb, hpb⟩ := (infDist_lt_iff hP).mp (lt_add_of_pos_right (infDist p Pᶜ) hε)
    obtain ⟨q, hq, h⟩ := houtline p hp b hb
    exact ⟨q, hq, h.trans (hpb.le.trans (add_le_add_left hkr.le ε))⟩
  · -- the contour of depth `k δ` is less than one spacing away
    obtain ⟨q, hq, h⟩ := level_within Pᶜ hP p (k * δ) ε (mul_nonneg k.cast_nonneg hδ.le) hkl hε
    exact ⟨q, hcont k hk0 hkn q hq, h.trans (add_le_add_left (sub_le_iff_le_add'.mpr hkr.le) ε)⟩

end cover

section outline
open Metric
variable {E : Type} [NormedAddCommGroup E] [NormedSpace ℝ E]

/-- **the outline is met on the way out**: on the segment from a point of the block to a point outside it there is a point
of the block's frontier (intermediate value theorem for the signed distance), no farther from the start than the end -/
theorem outline_met (P : Set E) (p b : E) (hp : p ∈ P) (hb : b ∉ P) :
    ∃ q ∈ _root_.frontier P, dist p q ≤ dist p b := by
  -- the signed distance `infDist · P - infDist · Pᶜ` is `≤ 0` at `p`, `≥ 0` at `b`; where it vanishes both terms do
  obtain ⟨q, hq, hd⟩ := segment_ivt ((continuous_infDist_pt P).sub (continuous_infDist_pt Pᶜ)) p b (t := 0) <| by
    simp only [Pi.sub_apply, infDist_zero_of_mem hp, infDist_zero_of_mem (show b ∈ Pᶜ from hb), zero_sub, sub_zero]
    exact Set.mem_uIcc_of_le (neg_nonpos.mpr infDist_nonneg) infDist_nonneg
  have heq : infDist q P = infDist q Pᶜ := sub_eq_zero.mp hq
  have hP : infDist q P = 0 := (em (q ∈ P)).elim infDist_zero_of_mem fun h => heq.trans (infDist_zero_of_mem h)
  refine ⟨q, ?_, hd ▸ le_add_of_nonneg_right dist_nonneg⟩
  rw [frontier_eq_closure_inter_closure]
  exact ⟨(mem_closure_iff_infDist_zero ⟨p, hp⟩).mpr hP, (mem_closure_iff_infDist_zero ⟨b, hb⟩).mpr (heq ▸ hP)⟩

/-- **coverage, with the outline hypothesis discharged**: (i) becomes `frontier P ⊆ path` (the first polyline is the outline,
`block_is_first_contour`) -/
theorem coverage_of_outline {P : Set E} (hP : Pᶜ.Nonempty) (δ : ℝ) (hδ : 0 < δ) (n : ℕ) (path : Set E)
    (hout : _root_.frontier P ⊆ path)
    (hcont : ∀ k : ℕ, 1 ≤ k → k < n → ∀ q, infDist q Pᶜ = k * δ → q ∈ path)
    (hhatch : ∀ p, n * δ ≤ infDist p Pᶜ → ∃ q ∈ path, dist p q ≤ δ / 2) :
    ∀ p ∈ P, ∀ ε > 0, ∃ q ∈ path, dist p q ≤ δ + ε :=
  coverage hP δ hδ n path
    (fun p hp b hb => by
      obtain ⟨q, hq, hd⟩ := outline_met P p b hp hb
      exact ⟨q, hout hq, hd⟩)
    hcont hhatch

end outline

end Femto.C07
