/-
C02 — coordinates are mapped by the documented rigid transformation.
All algebraic statements hold over an arbitrary field (so for the exact rationals the driver computes with and for the
reals with the true cosine and sine); the angle statements are over `ℝ`.
-/
import FemtoVerif.Model.Transform
import Mathlib.Tactic.Ring
import Mathlib.Tactic.LinearCombination
import Mathlib.Tactic.NormNum
import Mathlib.Analysis.SpecialFunctions.Trigonometric.Basic
import Mathlib.Algebra.Order.Floor.Ring

namespace Femto.C02
open Femto

section field
variable {K : Type} [Field K]

def mirror (flip : Bool) : K := if flip then -1 else 1

/-- **the documented map**: translate so that the chosen origin becomes (0,0), mirror x and/or y, rotate the xy-plane
counter-clockwise (`c = cos θ`, `s = sin θ`), divide z by `n_glass / n_environment` -/
def rigid (sx sy : K) (fx fy : Bool) (c s neff : K) (x y z : K) : K × K × K :=
  let X := mirror fx * (x - sx)
  let Y := mirror fy * (y - sy)
  (c * X - s * Y, s * X + c * Y, z / neff)

theorem flipSign_eq (f : Bool) : (-(flipSign f : K)) = mirror f := by
  cases f <;> norm_num [flipSign, mirror]

theorem mirror_mul_mirror (fx fy : Bool) : (mirror fx * mirror fy : K) = if fx = fy then 1 else -1 := by
  cases fx <;> cases fy <;> simp [mirror]

theorem mirror_mul_sq (f : Bool) (x : K) : (mirror f * x) ^ 2 = x ^ 2 := by
  rw [mul_pow, sq, mirror_mul_mirror, if_pos rfl, one_mul]

theorem rot_sq {c s : K} (hcs : c ^ 2 + s ^ 2 = 1) (X Y : K) : (c * X - s * Y) ^ 2 + (s * X + c * Y) ^ 2 = X ^ 2 + Y ^ 2 := by
  linear_combination (X ^ 2 + Y ^ 2) * hcs

/-- `wz` is the warp surface value (C17), `0` when compensation is off -/
theorem transformK_eq_rigid (sx sy : K) (fx fy : Bool) (c s neff wz x y z : K) :
    transformK sx sy fx fy c s neff wz x y z = rigid sx sy fx fy c s neff x y (z + wz) := by
  simp only [transformK, rigid, flipSign_eq, zero_mul, mul_zero, add_zero, zero_add, mul_neg, mul_one_div,
    ← sub_eq_add_neg, mul_comm _ c, mul_comm _ s]

/-- the code's sequence of array operations is the documented map (compensation off) -/
theorem transform_eq_rigid (sx sy : K) (fx fy : Bool) (c s neff x y z : K) :
    transformK sx sy fx fy c s neff 0 x y z = rigid sx sy fx fy c s neff x y z := by
  rw [transformK_eq_rigid, add_zero]

theorem rigid_sub (sx sy : K) (fx fy : Bool) (c s neff x₁ y₁ z₁ x₂ y₂ z₂ : K) :
    (rigid sx sy fx fy c s neff x₁ y₁ z₁).1 - (rigid sx sy fx fy c s neff x₂ y₂ z₂).1
      = c * (mirror fx * (x₁ - x₂)) - s * (mirror fy * (y₁ - y₂)) ∧
    (rigid sx sy fx fy c s neff x₁ y₁ z₁).2.1 - (rigid sx sy fx fy c s neff x₂ y₂ z₂).2.1
      = s * (mirror fx * (x₁ - x₂)) + c * (mirror fy * (y₁ - y₂)) ∧
    (rigid sx sy fx fy c s neff x₁ y₁ z₁).2.2 - (rigid sx sy fx fy c s neff x₂ y₂ z₂).2.2 = (z₁ - z₂) / neff := by
  simp only [rigid]
  exact ⟨by ring, by ring, by ring⟩

/-- xy distances are preserved -/
theorem rigid_isometry_xy (sx sy : K) (fx fy : Bool) (c s neff : K) (hcs : c ^ 2 + s ^ 2 = 1) (x₁ y₁ z₁ x₂ y₂ z₂ : K) :
    ((rigid sx sy fx fy c s neff x₁ y₁ z₁).1 - (rigid sx sy fx fy c s neff x₂ y₂ z₂).1) ^ 2 +
      ((rigid sx sy fx fy c s neff x₁ y₁ z₁).2.1 - (rigid sx sy fx fy c s neff x₂ y₂ z₂).2.1) ^ 2
      = (x₁ - x₂) ^ 2 + (y₁ - y₂) ^ 2 := by
  obtain ⟨h1, h2, -⟩ := rigid_sub sx sy fx fy c s neff x₁ y₁ z₁ x₂ y₂ z₂
  rw [h1, h2, rot_sq hcs, mirror_mul_sq, mirror_mul_sq]

/-- z distances scale by `n_environment / n_glass` (= `1 / neff`) -/
theorem rigid_z_scale (sx sy : K) (fx fy : Bool) (c s neff : K) (x₁ y₁ z₁ x₂ y₂ z₂ : K) :
    (rigid sx sy fx fy c s neff x₁ y₁ z₁).2.2 - (rigid sx sy fx fy c s neff x₂ y₂ z₂).2.2 = (z₁ - z₂) / neff :=
  (rigid_sub sx sy fx fy c s neff x₁ y₁ z₁ x₂ y₂ z₂).2.2

/-- orientation: the determinant of the xy linear part is `-1` exactly when one flip is set, `+1` otherwise -/
theorem rigid_orientation (fx fy : Bool) (c s : K) (hcs : c ^ 2 + s ^ 2 = 1) :
    (c * mirror fx) * (c * mirror fy) - (-(s * mirror fy)) * (s * mirror fx) = (if fx = fy then (1 : K) else -1) := by
  rw [← mirror_mul_mirror]
  linear_combination (mirror fx * mirror fy) * hcs

/-- the entries used in `rigid_orientation` are the partial derivatives of the map -/
theorem rigid_linear_part (sx sy : K) (fx fy : Bool) (c s neff x y z dx dy : K) :
    (rigid sx sy fx fy c s neff (x + dx) (y + dy) z).1 - (rigid sx sy fx fy c s neff x y z).1
        = (c * mirror fx) * dx + (-(s * mirror fy)) * dy ∧
    (rigid sx sy fx fy c s neff (x + dx) (y + dy) z).2.1 - (rigid sx sy fx fy c s neff x y z).2.1
        = (s * mirror fx) * dx + (c * mirror fy) * dy := by
  obtain ⟨h1, h2, -⟩ := rigid_sub sx sy fx fy c s neff (x + dx) (y + dy) z x y z
  exact ⟨h1.trans (by ring), h2.trans (by ring)⟩

/-- neutral settings give the identity -/
theorem rigid_neutral (x y z : K) : rigid 0 0 false false 1 0 1 x y z = (x, y, z) := by
  simp [rigid, mirror]

/-- the chosen origin becomes (0, 0) -/
theorem origin_to_zero (sx sy : K) (fx fy : Bool) (c s neff z : K) :
    (rigid sx sy fx fy c s neff sx sy z).1 = 0 ∧ (rigid sx sy fx fy c s neff sx sy z).2.1 = 0 := by
  simp [rigid]

end field

/-! ### the order of the steps matters (so a re-ordering is a real change) -/

/-- flipping before translating is a different map as soon as a flipped axis has a non-zero shift -/
theorem shift_then_flip_witness :
    rigid (1 : ℚ) 0 true false 1 0 1 0 0 0 ≠ (let p := rigid (0 : ℚ) 0 true false 1 0 1 0 0 0; (p.1 - 1, p.2.1, p.2.2)) := by
  decide +kernel

/-- rotating before flipping is a different map for a generic angle -/
theorem flip_then_rotate_witness :
    rigid (0 : ℚ) 0 true false (3/5) (4/5) 1 1 0 0
      ≠ (let p := rigid (0 : ℚ) 0 false false (3/5) (4/5) 1 1 0 0; (-p.1, p.2.1, p.2.2)) := by
  decide +kernel

open Real

/-- Python's `math.radians(angle % 360)` for a real `angle` in degrees -/
noncomputable def normRadians (a : ℝ) : ℝ := (a - 360 * (⌊a / 360⌋ : ℝ)) * π / 180

/-- **any sign or magnitude**: the normalised angle has the cosine and sine of `a` degrees -/
theorem angle_normalised (a : ℝ) :
    cos (normRadians a) = cos (a * π / 180) ∧ sin (normRadians a) = sin (a * π / 180) := by
  have e : normRadians a = a * π / 180 - (⌊a / 360⌋ : ℝ) * (2 * π) := by unfold normRadians; ring
  rw [e]
  exact ⟨Real.cos_sub_int_mul_two_pi _ _, Real.sin_sub_int_mul_two_pi _ _⟩

theorem normRadians_eq_fract (a : ℝ) : normRadians a = Int.fract (a / 360) * (2 * π) := by
  unfold normRadians Int.fract; ring

/-- the normalised angle lies in `[0°, 360°)` -/
theorem normRadians_range (a : ℝ) : 0 ≤ normRadians a ∧ normRadians a < 2 * π := by
  rw [normRadians_eq_fract]
  exact ⟨mul_nonneg (Int.fract_nonneg _) two_pi_pos.le, mul_lt_of_lt_one_left two_pi_pos (Int.fract_lt_one _)⟩

/-- with the true cosine and sine the map is an isometry of the xy-plane for **every** angle -/
theorem real_rotation_isometry (a sx sy : ℝ) (fx fy : Bool) (neff x₁ y₁ z₁ x₂ y₂ z₂ : ℝ) :
    ((rigid sx sy fx fy (cos (normRadians a)) (sin (normRadians a)) neff x₁ y₁ z₁).1 -
        (rigid sx sy fx fy (cos (normRadians a)) (sin (normRadians a)) neff x₂ y₂ z₂).1) ^ 2 +
      ((rigid sx sy fx fy (cos (normRadians a)) (sin (normRadians a)) neff x₁ y₁ z₁).2.1 -
        (rigid sx sy fx fy (cos (normRadians a)) (sin (normRadians a)) neff x₂ y₂ z₂).2.1) ^ 2
      = (x₁ - x₂) ^ 2 + (y₁ - y₂) ^ 2 :=
  rigid_isometry_xy _ _ _ _ _ _ _ (Real.cos_sq_add_sin_sq _) _ _ _ _ _ _

/-- and it rotates counter-clockwise by `a` degrees: the unit x vector goes to `(cos a°, sin a°)` -/
theorem real_rotation_ccw (a : ℝ) :
    (rigid 0 0 false false (cos (normRadians a)) (sin (normRadians a)) 1 1 0 0 : ℝ × ℝ × ℝ)
      = (cos (a * π / 180), sin (a * π / 180), 0) := by
  obtain ⟨hc, hs⟩ := angle_normalised a
  simp [rigid, mirror, hc, hs]

end Femto.C02
