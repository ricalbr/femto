/-
C14 — marker primitives draw exactly the documented figure.
`strokes` = maximal runs of shutter-open rows with consecutive repeats removed (Model/Raster.lean).
-/
import FemtoVerif.Model.Marker
import FemtoVerif.Proofs.PathLemmas
import FemtoVerif.Props.C15
import Mathlib.Tactic.Ring
import Mathlib.Data.Rat.Defs

namespace Femto.C14
open Femto Femto.Pth Femto.Mk Femto.Ras

theorem finish_spec (a : Attrs) (t : Traj) (ht : t ≠ []) :
    ∃ t', finish a t = .ok t' ∧ strokes t' = strokes t ∧ t'.getLast?.map (·.s) = some 0 := by
  refine ⟨_, finish_of a (List.head?_eq_some_head ht) (List.getLast?_eq_some_getLast ht), ?_, ?_⟩
  · rw [C15.strokes_append_closed t _ _ rfl]
    exact List.append_nil _
  · rw [List.append_cons, List.getLast?_concat]; rfl

theorem figure_spec (a : Attrs) (x y z : Rat) {body : Traj → Except PErr Traj} {rows : Traj}
    (hb : body [⟨x, y, z, a.speedPos, 0⟩, ⟨x, y, z, a.speedPos, 1⟩]
      = .ok ([⟨x, y, z, a.speedPos, 0⟩, ⟨x, y, z, a.speedPos, 1⟩] ++ rows)) :
    ∃ t, (do let t ← start a x y z none []; let t ← body t; finish a t) = .ok t ∧
      strokes t = strokes (⟨x, y, z, a.speedPos, 1⟩ :: rows) ∧ t.getLast?.map (·.s) = some 0 := by
  obtain ⟨t, h1, h2, h3⟩ := finish_spec a (⟨x, y, z, a.speedPos, 0⟩ :: ⟨x, y, z, a.speedPos, 1⟩ :: rows)
    (List.cons_ne_nil _ _)
  refine ⟨t, ?_, h2.trans (C15.strokes_cons_closed rfl), h3⟩
  rw [start_nil]
  simp only [bind, Except.bind, hb]
  exact h1

def crossTraj (a : Attrs) (x y z lx ly : Rat) : Traj :=
  [⟨x - lx / 2, y, z, a.speedPos, 0⟩, ⟨x - lx / 2, y, z, a.speedPos, 1⟩,
   ⟨x + lx / 2, y, z, a.speed, 1⟩, ⟨x + lx / 2, y, z, a.speed, 0⟩,
   ⟨x, y - ly / 2, z, a.speed, 0⟩, ⟨x, y - ly / 2, z, a.speed, 1⟩,
   ⟨x, y + ly / 2, z, a.speed, 1⟩, ⟨x, y + ly / 2, z, a.speed, 0⟩,
   ⟨x, y, z, a.speed, 0⟩]

theorem cross_traj (a : Attrs) (x y z lx ly : Rat) : cross a x y z lx ly = .ok (crossTraj a x y z lx ly) := by
  have hs : start a (x - lx / 2) y z none []
      = .ok ([⟨x - lx / 2, y, z, a.speedPos, 0⟩] ++ [⟨x - lx / 2, y, z, a.speedPos, 1⟩]) := rfl
  have h1 : x - lx / 2 + lx = x + lx / 2 := by ring
  have h2 : x + lx / 2 + -lx / 2 = x := by ring
  have h3 : y + -ly / 2 = y - ly / 2 := by ring
  have h4 : y - ly / 2 + ly = y + ly / 2 := by ring
  simp only [cross, hs, linear_snoc, bind, Except.bind]
  simp only [nextRow, Option.getD_none, Option.getD_some, if_true, if_false, Bool.false_eq_true,
    List.cons_append, List.nil_append, add_zero, h1, h2, h3, h4]
  rfl

/-- **cross**: exactly two open-shutter strokes, of lengths `lx` and `ly`, centred on the requested position, the
first parallel to x and the second parallel to y; everything else, and the end of the figure, is shutter-closed -/
theorem cross_strokes (a : Attrs) (x y z lx ly : Rat) :
    ∃ t, cross a x y z lx ly = .ok t ∧
      strokes t = [dedup [(x - lx / 2, y, z), (x + lx / 2, y, z)], dedup [(x, y - ly / 2, z), (x, y + ly / 2, z)]] ∧
      t.getLast?.map (·.s) = some 0 := by
  refine ⟨_, cross_traj a x y z lx ly, ?_, rfl⟩
  have h1 : (1 : Rat) ≠ 0 := one_ne_zero
  rw [crossTraj, C15.strokes_bar rfl h1 h1 rfl, C15.strokes_bar rfl h1 h1 rfl,
    C15.strokes_cons_closed rfl]
  rfl

def tickRows (a : Attrs) (xi d : Rat) (tk : Rat × Rat) : Traj :=
  [⟨xi, tk.2, d, a.speed, 0⟩, ⟨xi, tk.2, d, a.speed, 1⟩, ⟨tk.1, tk.2, d, a.speed, 1⟩, ⟨tk.1, tk.2, d, a.speed, 0⟩]

theorem rulerTicks_eq (a : Attrs) (xi d : Rat) (ticks : List (Rat × Rat)) (t : Traj) (ht : t ≠ []) :
    rulerTicks a xi d ticks t = .ok (t ++ ticks.flatMap (tickRows a xi d)) := by
  induction ticks generalizing t with
  | nil => simp [rulerTicks]
  | cons tk rest ih =>
    simp only [rulerTicks, bind, Except.bind, linear_abs_full a t ht, linear_snoc]
    rw [ih _ (by simp)]
    simp [tickRows, nextRow, List.append_assoc]

theorem tickRows_head (a : Attrs) (xi d : Rat) (tk : Rat × Rat) : ∀ r ∈ (tickRows a xi d tk).head?, r.s = 0 := by
  rintro r ⟨⟩; rfl

private theorem strokes_tick (a : Attrs) (xi d : Rat) (tk : Rat × Rat) :
    strokes (tickRows a xi d tk) = [dedup [(xi, tk.2, d), (tk.1, tk.2, d)]] :=
  C15.strokes_bar rfl one_ne_zero one_ne_zero rfl

/-- **ruler**: one stroke per entry of the tick list `y0 :: rest`, in the order of the list, every one starting at the
initial x, the first reaching `lx` and the others `lx2`; before them the one-point stroke that `start` leaves open at the
beginning of the first tick.  The list is arbitrary: `Mk.ruler` begins after `np.unique` (`uniqueSorted`, below), and no
theorem composes the two. -/
theorem ruler_strokes (a : Attrs) (d xi lx lx2 y0 : Rat) (rest : List Rat) :
    ∃ t, ruler a d xi lx lx2 (y0 :: rest) = .ok t ∧
      strokes t = [(xi, y0, d)] :: ((lx, y0) :: rest.map fun y => (lx2, y)).map (fun tk => dedup [(xi, tk.2, d), (tk.1, tk.2, d)]) ∧
      t.getLast?.map (·.s) = some 0 := by
  obtain ⟨t, h1, h2, h3⟩ := figure_spec a xi y0 d
    (rulerTicks_eq a xi d ((lx, y0) :: rest.map fun y => (lx2, y)) _ (List.cons_ne_nil _ _))
  refine ⟨t, h1, ?_, h3⟩
  -- every tick begins closed, so the open row that `start` leaves is a stroke of its own
  have hc := fun tk (_ : tk ∈ (lx, y0) :: rest.map fun y => (lx2, y)) => tickRows_head a xi d tk
  rw [h2, ← List.singleton_append, C15.strokes_append (C15.flatMap_head_closed hc), C15.strokes_flatMap hc]
  simp only [strokes_tick, ← List.map_eq_flatMap]
  rfl

theorem mem_insertU (a x : Rat) (s : List Rat) : x ∈ insertU a s ↔ x = a ∨ x ∈ s := by
  induction s with
  | nil => simp [insertU]
  | cons b t ih =>
    simp only [insertU]
    split
    · simp
    · split
      · rename_i h; subst h; simp
      · rw [List.mem_cons, ih, List.mem_cons, or_left_comm]

theorem insertU_sorted (a : Rat) (s : List Rat) (hs : s.Pairwise (· < ·)) : (insertU a s).Pairwise (· < ·) := by
  induction s with
  | nil => exact List.pairwise_singleton _ _
  | cons b t ih =>
    obtain ⟨hb, ht⟩ := List.pairwise_cons.mp hs
    rw [insertU]
    split_ifs with hab heq
    · exact List.pairwise_cons.mpr ⟨List.forall_mem_cons.mpr ⟨hab, fun y hy => hab.trans (hb y hy)⟩, hs⟩
    · exact hs
    · refine List.pairwise_cons.mpr ⟨fun y hy => ?_, ih ht⟩
      rcases (mem_insertU a y t).mp hy with rfl | hy
      · exact lt_of_le_of_ne (not_lt.mp hab) (Ne.symm heq)
      · exact hb y hy

/-- the model of `np.unique` returns a strictly increasing list -/
theorem uniqueSorted_sorted (l : List Rat) : (uniqueSorted l).Pairwise (· < ·) := by
  induction l with
  | nil => exact .nil
  | cons a t ih => exact insertU_sorted a _ ih

/-- with exactly the elements of the input -/
theorem uniqueSorted_mem (l : List Rat) (x : Rat) : x ∈ uniqueSorted l ↔ x ∈ l := by
  induction l with
  | nil => rfl
  | cons a t ih => rw [uniqueSorted, List.foldr_cons, mem_insertU, List.mem_cons, ← ih]; rfl

def lineRow (a : Attrs) (alongX : Bool) (len : Rat) (l : Row Rat) : Row Rat :=
  if alongX then nextRow a l (some len) (some 0) (some 0) false 1 none else nextRow a l (some 0) (some len) (some 0) false 1 none

def stepRow (a : Attrs) (alongX : Bool) (d : Rat) (l : Row Rat) : Row Rat :=
  if alongX then nextRow a l (some 0) (some d) (some 0) false 1 none else nextRow a l (some d) (some 0) (some 0) false 1 none

def meanderRows (a : Attrs) (alongX : Bool) (w d : Rat) : Nat → Rat → Row Rat → List (Row Rat)
  | 0, sg, l => [lineRow a alongX (sg * w) l]
  | n + 1, sg, l =>
    lineRow a alongX (sg * w) l :: stepRow a alongX d (lineRow a alongX (sg * w) l) ::
      meanderRows a alongX w d n (-sg) (stepRow a alongX d (lineRow a alongX (sg * w) l))

theorem meanderLine_snoc (a : Attrs) (alongX : Bool) (len : Rat) (t : Traj) (l : Row Rat) :
    meanderLine a alongX len (t ++ [l]) = .ok (t ++ [l] ++ [lineRow a alongX len l]) := by
  cases alongX <;> exact linear_snoc ..

theorem meanderStep_snoc (a : Attrs) (alongX : Bool) (d : Rat) (t : Traj) (l : Row Rat) :
    meanderStep a alongX d (t ++ [l]) = .ok (t ++ [l] ++ [stepRow a alongX d l]) := by
  cases alongX <;> exact linear_snoc ..

theorem lineRow_s (a : Attrs) (alongX : Bool) (len : Rat) (l : Row Rat) : (lineRow a alongX len l).s = 1 := by
  cases alongX <;> rfl

theorem stepRow_s (a : Attrs) (alongX : Bool) (d : Rat) (l : Row Rat) : (stepRow a alongX d l).s = 1 := by
  cases alongX <;> rfl

theorem meanderLines_eq (a : Attrs) (alongX : Bool) (w d : Rat) (n : Nat) (sg : Rat) (t : Traj) (l : Row Rat) :
    meanderLines a alongX w d n sg (t ++ [l]) = .ok (t ++ [l] ++ meanderRows a alongX w d n sg l) := by
  induction n generalizing sg t l with
  | zero => exact meanderLine_snoc ..
  | succ n ih =>
    simp only [meanderLines, bind, Except.bind, meanderLine_snoc, meanderStep_snoc]
    rw [ih, meanderRows, List.append_assoc, List.append_assoc]
    rfl

theorem meanderRows_open (a : Attrs) (alongX : Bool) (w d : Rat) (n : Nat) (sg : Rat) (l : Row Rat) :
    ∀ r ∈ meanderRows a alongX w d n sg l, r.s = 1 := by
  induction n generalizing sg l with
  | zero => exact List.forall_mem_singleton.mpr (lineRow_s ..)
  | succ n ih => exact List.forall_mem_cons.mpr ⟨lineRow_s .., List.forall_mem_cons.mpr ⟨stepRow_s .., ih _ _⟩⟩

/-- `n + 1` lines joined by `n` steps -/
theorem meanderRows_length (a : Attrs) (alongX : Bool) (w d : Rat) (n : Nat) (sg : Rat) (l : Row Rat) :
    (meanderRows a alongX w d n sg l).length = 2 * n + 1 := by
  induction n generalizing sg l with
  | zero => simp [meanderRows]
  | succ n ih => simp only [meanderRows, List.length_cons, ih]; omega

theorem lineRow_y (a : Attrs) (len : Rat) (l : Row Rat) : (lineRow a true len l).y = l.y := by
  simp [lineRow, nextRow]

theorem stepRow_y (a : Attrs) (d : Rat) (l : Row Rat) : (stepRow a true d l).y = l.y + d := by
  simp [stepRow, nextRow]

/-- the `k`-th line of an x-oriented meander lies at `y + k·d` (`d` = signed spacing, towards the final position); lines
are the rows of even index, steps those of odd index -/
theorem meanderRows_step_axis (a : Attrs) (w d : Rat) (n : Nat) (sg : Rat) (l : Row Rat) (i : Nat)
    (hi : i < 2 * n + 1) :
    ((meanderRows a true w d n sg l)[i]?.map (·.y)) = some (l.y + ((i + 1) / 2 : Nat) * d) := by
  induction n generalizing sg l i with
  | zero =>
    obtain rfl : i = 0 := Nat.lt_one_iff.mp hi
    show some (lineRow a true (sg * w) l).y = _
    rw [lineRow_y, Nat.cast_zero, zero_mul, add_zero]
  | succ n ih =>
    match i with
    | 0 =>
      show some (lineRow a true (sg * w) l).y = _
      rw [lineRow_y, Nat.cast_zero, zero_mul, add_zero]
    | 1 =>
      show some (stepRow a true d (lineRow a true (sg * w) l)).y = _
      rw [stepRow_y, lineRow_y, Nat.cast_one, one_mul]
    | i + 2 =>
      -- two rows further on, one step further along the axis
      refine (ih (-sg) (stepRow a true d (lineRow a true (sg * w) l)) i (by omega)).trans ?_
      rw [stepRow_y, lineRow_y, Nat.add_right_comm i 2 1, Nat.add_div_right _ two_pos, Nat.cast_succ, add_one_mul,
        add_right_comm, add_assoc l.y]

/-- **meander**: one continuous open-shutter stroke through `2·n + 2` vertices (`n + 1` lines of the given width joined
by `n` steps of the spacing, `n = floor(|extent| / spacing)`), everything else and the end shutter-closed -/
theorem meander_one_stroke (a : Attrs) (xi yi zi xf yf w delta : Rat) (alongX : Bool) :
    ∃ t rows, meander a xi yi zi xf yf w delta alongX = .ok t ∧
      rows = meanderRows a alongX w (sgn (if alongX then yf - yi else xf - xi) * delta)
        (meanderPasses (if alongX then yf - yi else xf - xi) delta) 1 ⟨xi, yi, zi, a.speedPos, 1⟩ ∧
      strokes t = [dedup ((xi, yi, zi) :: rows.map p3)] ∧
      rows.length = 2 * meanderPasses (if alongX then yf - yi else xf - xi) delta + 1 ∧
      t.getLast?.map (·.s) = some 0 := by
  obtain ⟨t, h1, h2, h3⟩ := figure_spec a xi yi zi (meanderLines_eq a alongX w
    (sgn (if alongX then yf - yi else xf - xi) * delta) (meanderPasses (if alongX then yf - yi else xf - xi) delta) 1
    [⟨xi, yi, zi, a.speedPos, 0⟩] ⟨xi, yi, zi, a.speedPos, 1⟩)
  refine ⟨t, _, h1, rfl, ?_, meanderRows_length .., h3⟩
  rw [h2, C15.strokes_all_open (List.cons_ne_nil _ _) (List.forall_mem_cons.mpr ⟨one_ne_zero, fun r hr => by
    rw [meanderRows_open _ _ _ _ _ _ _ r hr]; exact one_ne_zero⟩)]
  rfl

def openRows (a : Attrs) (pts : List P3) : Traj := pts.map fun p => ⟨p.1, p.2.1, p.2.2, a.speed, 1⟩

theorem chain_eq (a : Attrs) (pts : List P3) (t : Traj) (ht : t ≠ []) : chain a pts t = .ok (t ++ openRows a pts) := by
  induction pts generalizing t with
  | nil => simp [chain, openRows]
  | cons p rest ih =>
    simp only [chain, bind, Except.bind, linear_abs_full a t ht]
    rw [ih _ (by simp)]
    simp [openRows, List.append_assoc]

/-- `f` is the feed of the first two rows: `speed_pos` when `start` writes them, `speed` in a shifted copy -/
def traceRows (a : Attrs) (f : Rat) (c : List P3) : Traj :=
  match c.head?, c.getLast? with
  | some c0, some cl =>
    [⟨c0.1, c0.2.1, c0.2.2, f, 0⟩, ⟨c0.1, c0.2.1, c0.2.2, f, 1⟩] ++ openRows a c ++
      [⟨cl.1, cl.2.1, cl.2.2, a.speed, 1⟩, ⟨cl.1, cl.2.1, cl.2.2, a.speed, 0⟩]
  | _, _ => []

theorem traceRows_head (a : Attrs) {f : Rat} (c : List P3) : ∀ r ∈ (traceRows a f c).head?, r.s = 0 := by
  unfold traceRows
  split
  · rintro r ⟨⟩; rfl
  · rintro r ⟨⟩

theorem ablationCopy_eq (a : Attrs) (c : List P3) (t : Traj) (ht : t ≠ []) :
    ablationCopy a c t = .ok (t ++ traceRows a a.speed c) := by
  unfold ablationCopy traceRows
  split <;> simp [bind, Except.bind, linear_abs_full, chain_eq, *]

theorem ablationCopies_eq (a : Attrs) (cs : List (List P3)) (t : Traj) (ht : t ≠ []) :
    ablationCopies a cs t = .ok (t ++ cs.flatMap (traceRows a a.speed)) := by
  induction cs generalizing t with
  | nil => simp [ablationCopies]
  | cons c rest ih =>
    simp only [ablationCopies, bind, Except.bind, ablationCopy_eq a c t ht]
    rw [ih _ (by simp [ht])]
    simp [List.append_assoc]

theorem dedup_cons (p : P3) (l : List P3) : dedup (p :: l) = if l.head? = some p then dedup l else p :: dedup l := by
  cases l with
  | nil => rfl
  | cons q t => simp [dedup, eq_comm]

theorem dedup_last_dup {c : List P3} {cl : P3} (hl : c.getLast? = some cl) : dedup (c ++ [cl]) = dedup c := by
  obtain ⟨l, rfl⟩ := List.getLast?_eq_some_iff.mp hl
  clear hl
  induction l with
  | nil => exact (dedup_cons cl [cl]).trans (if_pos rfl)
  | cons p t ih =>
    rw [List.cons_append, List.cons_append, dedup_cons, dedup_cons p, ih,
      List.head?_append_of_ne_nil _ (List.append_ne_nil_of_right_ne_nil _ (List.cons_ne_nil _ _))]

/-- the first and the last vertex are visited twice, which `dedup` removes -/
theorem strokes_trace (a : Attrs) {f : Rat} {c : List P3} (hc : c ≠ []) : strokes (traceRows a f c) = [dedup c] := by
  have h0 := List.head?_eq_some_head hc
  have hl := List.getLast?_eq_some_getLast hc
  simp only [traceRows, h0, hl, List.cons_append, List.nil_append]
  rw [C15.strokes_cons_closed rfl, List.append_cons, ← List.cons_append, C15.strokes_append_closed _ _ _ rfl,
    C15.strokes_all_open (by simp) (by
      simp only [List.mem_cons, List.mem_append, openRows, List.mem_map, List.not_mem_nil, or_false]
      rintro r (rfl | ⟨p, _, rfl⟩ | rfl) <;> simp), C15.strokes_nil]
  simp only [openRows, p3, List.map_cons, List.map_append, List.map_map, Function.comp_def, List.map_id', List.map_nil,
    List.append_nil]
  rw [dedup_cons, if_pos (by simp [List.head?_append, h0]), dedup_last_dup hl]

theorem shiftBy_ne_nil {pts : List P3} (hne : pts ≠ []) (dx dy : Rat) : shiftBy pts dx dy ≠ [] :=
  mt List.map_eq_nil_iff.mp hne

theorem ablationShifts_ne_nil (pts : List P3) (shift : Option Rat) (hne : pts ≠ []) : ∀ c ∈ ablationShifts pts shift, c ≠ [] := by
  cases shift with
  | none => nofun
  | some s =>
    simp only [ablationShifts, List.forall_mem_cons]
    exact ⟨shiftBy_ne_nil hne _ _, shiftBy_ne_nil hne _ _, shiftBy_ne_nil hne _ _, shiftBy_ne_nil hne _ _, nofun⟩

/-- **ablation**: the open-shutter strokes are the vertex chain in order and, when a shift is given, four copies displaced
by `+shift`, `-shift` along x and `+shift`, `-shift` along y, in that order; all travel between them and the end of the
figure are shutter-closed -/
theorem ablation_strokes (a : Attrs) (pts : List P3) (shift : Option Rat) (hne : pts ≠ []) :
    ∃ t, ablation a pts shift = .ok t ∧
      strokes t = dedup pts :: (ablationShifts pts shift).map dedup ∧
      t.getLast?.map (·.s) = some 0 := by
  have h0 := List.head?_eq_some_head hne
  have hl := List.getLast?_eq_some_getLast hne
  obtain ⟨t, h1, h2, h3⟩ := finish_spec a
    (traceRows a a.speedPos pts ++ (ablationShifts pts shift).flatMap (traceRows a a.speed)) (by simp [traceRows, h0, hl])
  refine ⟨t, ?_, ?_, h3⟩
  · rw [← h1]
    simp [ablation, traceRows, h0, hl, start_nil, bind, Except.bind, chain_eq, linear_abs_full, ablationCopies_eq]
  · rw [h2, C15.strokes_append (C15.flatMap_head_closed fun c _ => traceRows_head a c), strokes_trace a hne,
      C15.strokes_flatMap fun c _ => traceRows_head a c, List.map_eq_flatMap]
    exact congrArg _ (List.flatMap_congr fun c hc => strokes_trace a (ablationShifts_ne_nil pts shift hne c hc))

/-- **box**: one closed stroke around the rectangle with the given lower-left corner, `|width|` and `|height|` -/
theorem box_strokes (a : Attrs) (x y z w h : Rat) :
    ∃ t, box a x y z w h = .ok t ∧
      strokes t = [dedup [(x, y, z), (x + Mk.rabs w, y, z), (x + Mk.rabs w, y + Mk.rabs h, z), (x, y + Mk.rabs h, z), (x, y, z)]] ∧
      t.getLast?.map (·.s) = some 0 := by
  obtain ⟨t, h1, h2, h3⟩ := ablation_strokes a
    [(x, y, z), (x + Mk.rabs w, y, z), (x + Mk.rabs w, y + Mk.rabs h, z), (x, y + Mk.rabs h, z), (x, y, z)] none (by simp)
  exact ⟨t, by simpa [box] using h1, by simpa [ablationShifts] using h2, h3⟩

theorem figures_end_closed (a : Attrs) :
    (∀ x y z lx ly, ∃ t, cross a x y z lx ly = .ok t ∧ t.getLast?.map (·.s) = some 0) ∧
    (∀ d xi lx lx2 y0 rest, ∃ t, ruler a d xi lx lx2 (y0 :: rest) = .ok t ∧ t.getLast?.map (·.s) = some 0) ∧
    (∀ xi yi zi xf yf w dl ax, ∃ t, meander a xi yi zi xf yf w dl ax = .ok t ∧ t.getLast?.map (·.s) = some 0) ∧
    (∀ pts sh, pts ≠ [] → ∃ t, ablation a pts sh = .ok t ∧ t.getLast?.map (·.s) = some 0) :=
  ⟨fun x y z lx ly => (cross_strokes a x y z lx ly).imp fun _ h => ⟨h.1, h.2.2⟩,
   fun d xi lx lx2 y0 rest => (ruler_strokes a d xi lx lx2 y0 rest).imp fun _ h => ⟨h.1, h.2.2⟩,
   fun xi yi zi xf yf w dl ax => let ⟨t, _, h⟩ := meander_one_stroke a xi yi zi xf yf w dl ax; ⟨t, h.1, h.2.2.2.2⟩,
   fun pts sh hne => (ablation_strokes a pts sh hne).imp fun _ h => ⟨h.1, h.2.2⟩⟩

example : (match cross {} 1 2 0 4 2 with | .ok t => strokes t | .error _ => []) = [[(-1, 2, 0), (3, 2, 0)], [(1, 1, 0), (1, 3, 0)]] := by
  decide +kernel
example : (match meander {} 0 0 0 0 (-7/10) 1 (1/4) true with | .ok t => (strokes t).map List.length | .error _ => []) = [6] := by
  decide +kernel

end Femto.C14
