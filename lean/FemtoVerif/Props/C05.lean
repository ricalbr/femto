/-
C05 — trench blocks keep their clearance from the waveguides and are numbered bottom-up.
PARTIAL: the metric consequences of the construction (what `buffer` / `difference` mean as point sets) and the list
logic (numbering, removal) are proved; that GEOS meets the point-set contract up to the polygonisation error is sampled.
-/
import FemtoVerif.Model.Trench
import Mathlib.Topology.MetricSpace.Pseudo.Defs
import Mathlib.Tactic.Linarith
import Mathlib.Tactic.Ring
import Mathlib.Analysis.Normed.Affine.Convex
import Mathlib.Analysis.Convex.Segment

namespace Femto.C05
open Femto.Tr

section metric
variable {E : Type} [PseudoMetricSpace E]

/-- what `buffer(r)` means as a point set: everything within `r` of the shape -/
def dilate (A : Set E) (r : ℝ) : Set E := {p | ∃ a ∈ A, dist p a ≤ r}

/-- the adjusted bridge is the required clearance plus the corner radius -/
theorem adj_split (bridge waist rc : ℝ) : adjBridge bridge waist rc - rc = bridge / 2 + waist := by
  unfold adjBridge; ring

theorem subset_dilate {B : Set E} {rc : ℝ} (hrc : 0 ≤ rc) : B ⊆ dilate B rc :=
  fun b hb => ⟨b, hb, (dist_self b).trans_le hrc⟩

theorem dilate_apart {A B : Set E} {d r s : ℝ} (h : ∀ a ∈ A, ∀ b ∈ B, d ≤ dist a b) :
    ∀ p ∈ dilate A r, ∀ q ∈ dilate B s, d - r - s ≤ dist p q := by
  rintro p ⟨a, ha, hpa⟩ q ⟨b, hb, hqb⟩
  have := dist_triangle4 a p q b
  rw [dist_comm a p] at this
  linarith [h a ha b hb]

/-- **clearance**: if every point of the raw block is at least `adj − ε` from the waveguide set `W` (it lies outside the
waveguides dilated by `adj`, `ε` being the polygonisation error of the round shapes), then every point of the block
rounded by `rc` is at least `bridge/2 + waist − ε` from `W` -/
theorem clearance {W B : Set E} {bridge waist rc ε : ℝ}
    (hraw : ∀ b ∈ B, ∀ w ∈ W, adjBridge bridge waist rc - ε ≤ dist b w) :
    ∀ p ∈ dilate B rc, ∀ w ∈ W, bridge / 2 + waist - ε ≤ dist p w := by
  intro p hp w hw
  have := dilate_apart hraw p hp w (subset_dilate le_rfl hw)
  rwa [sub_zero, sub_right_comm, adj_split] at this

/-- **inside the column rectangle grown by the corner radius** -/
theorem inside_grown {R B : Set E} {rc : ℝ} (hB : B ⊆ R) : dilate B rc ⊆ dilate R rc := by
  rintro p ⟨b, hb, h⟩
  exact ⟨b, hB hb, h⟩

/-- **coverage**: the raw blocks are the pieces of `rect \ mold`; hence every point of the rectangle that is at least `adj`
from every waveguide lies in some rounded block — however many blocks there are (`blocks` may be a singleton) -/
theorem coverage {R W : Set E} {blocks : List (Set E)} {adj rc : ℝ} (hrc : 0 ≤ rc)
    (hpieces : ∀ p ∈ R, (∀ w ∈ W, adj ≤ dist p w) → ∃ B ∈ blocks, p ∈ B) :
    ∀ p ∈ R, (∀ w ∈ W, adj ≤ dist p w) → ∃ B ∈ blocks, p ∈ dilate B rc := by
  intro p hp hfar
  obtain ⟨B, hB, hpB⟩ := hpieces p hp hfar
  exact ⟨B, hB, subset_dilate hrc hpB⟩

/-- **no overlap** — under the separation hypothesis `Hsep`: between any point of one raw block and any point of another
there is a waveguide point `m` *on the way* (`dist b₀ m + dist m b₁ = dist b₀ b₁`).  Then the two rounded blocks stay
`bridge + 2·waist − 2ε` apart, in particular they are disjoint when that is positive.  (Two blocks separated only by the
round end cap of a waveguide that stops inside the column do **not** satisfy `Hsep`: known finding F7.) -/
theorem rounded_apart {W B₀ B₁ : Set E} {bridge waist rc ε : ℝ}
    (hraw₀ : ∀ b ∈ B₀, ∀ w ∈ W, adjBridge bridge waist rc - ε ≤ dist b w)
    (hraw₁ : ∀ b ∈ B₁, ∀ w ∈ W, adjBridge bridge waist rc - ε ≤ dist b w)
    (Hsep : ∀ b₀ ∈ B₀, ∀ b₁ ∈ B₁, ∃ m ∈ W, dist b₀ m + dist m b₁ = dist b₀ b₁) :
    ∀ p ∈ dilate B₀ rc, ∀ q ∈ dilate B₁ rc, bridge + 2 * waist - 2 * ε ≤ dist p q := by
  have hraw : ∀ b₀ ∈ B₀, ∀ b₁ ∈ B₁, 2 * (adjBridge bridge waist rc - ε) ≤ dist b₀ b₁ := fun b₀ hb₀ b₁ hb₁ => by
    obtain ⟨m, hm, hsum⟩ := Hsep b₀ hb₀ b₁ hb₁
    rw [← hsum, two_mul, dist_comm m]
    exact add_le_add (hraw₀ b₀ hb₀ m hm) (hraw₁ b₁ hb₁ m hm)
  intro p hp q hq
  refine le_trans (le_of_eq ?_) (dilate_apart hraw p hp q hq)
  unfold adjBridge; ring

theorem rounded_disjoint {W B₀ B₁ : Set E} {bridge waist rc ε : ℝ}
    (hraw₀ : ∀ b ∈ B₀, ∀ w ∈ W, adjBridge bridge waist rc - ε ≤ dist b w)
    (hraw₁ : ∀ b ∈ B₁, ∀ w ∈ W, adjBridge bridge waist rc - ε ≤ dist b w)
    (Hsep : ∀ b₀ ∈ B₀, ∀ b₁ ∈ B₁, ∃ m ∈ W, dist b₀ m + dist m b₁ = dist b₀ b₁)
    (hpos : 2 * ε < bridge + 2 * waist) : Disjoint (dilate B₀ rc) (dilate B₁ rc) :=
  Set.disjoint_left.mpr fun p hp0 hp1 =>
    absurd (rounded_apart hraw₀ hraw₁ Hsep p hp0 p hp1) (by rw [dist_self, not_le, sub_pos]; exact hpos)

end metric

section line
variable {E : Type} [NormedAddCommGroup E] [NormedSpace ℝ E]

theorem exists_mem_segment_eq (φ : E →ₗ[ℝ] ℝ) {c : ℝ} {b₀ b₁ : E} (hc : c ∈ Set.uIcc (φ b₀) (φ b₁)) :
    ∃ m ∈ segment ℝ b₀ b₁, φ m = c := by
  rw [← segment_eq_uIcc] at hc
  exact (image_segment ℝ φ.toAffineMap b₀ b₁).ge hc

/-- **the separation hypothesis holds across a straight guide**: if the guide contains the whole line `φ = c` (a straight
guide that crosses the neighbourhood of both blocks) and the two raw blocks lie on opposite sides of it, then between any
point of one and any point of the other there is a guide point on the way -/
theorem hsep_of_line (φ : E →ₗ[ℝ] ℝ) (c : ℝ) {W B₀ B₁ : Set E} (hW : {p | φ p = c} ⊆ W)
    (h0 : ∀ b ∈ B₀, c < φ b) (h1 : ∀ b ∈ B₁, φ b < c) :
    ∀ b₀ ∈ B₀, ∀ b₁ ∈ B₁, ∃ m ∈ W, dist b₀ m + dist m b₁ = dist b₀ b₁ := fun b₀ hb₀ b₁ hb₁ =>
  let ⟨m, hm, e⟩ := exists_mem_segment_eq φ (Set.mem_uIcc_of_ge (h1 b₁ hb₁).le (h0 b₀ hb₀).le)
  ⟨m, hW e, dist_add_dist_of_mem_segment hm⟩

/-- **blocks on opposite sides of a straight guide do not overlap**: they stay `bridge + 2·waist − 2ε` apart -/
theorem straight_guide_blocks_apart (φ : E →ₗ[ℝ] ℝ) (c : ℝ) {W B₀ B₁ : Set E} {bridge waist rc ε : ℝ}
    (hW : {p | φ p = c} ⊆ W)
    (hraw₀ : ∀ b ∈ B₀, ∀ w ∈ W, adjBridge bridge waist rc - ε ≤ dist b w)
    (hraw₁ : ∀ b ∈ B₁, ∀ w ∈ W, adjBridge bridge waist rc - ε ≤ dist b w)
    (h0 : ∀ b ∈ B₀, c < φ b) (h1 : ∀ b ∈ B₁, φ b < c) :
    ∀ p ∈ dilate B₀ rc, ∀ q ∈ dilate B₁ rc, bridge + 2 * waist - 2 * ε ≤ dist p q :=
  rounded_apart hraw₀ hraw₁ (hsep_of_line φ c hW h0 h1)

end line

section order
variable {α : Type}

private theorem le_props :
    (∀ a b c : Rat × α, decide (a.1 ≤ b.1) = true → decide (b.1 ≤ c.1) = true → decide (a.1 ≤ c.1) = true) ∧
    (∀ a b : Rat × α, (decide (a.1 ≤ b.1) || decide (b.1 ≤ a.1)) = true) :=
  ⟨fun _ _ _ h1 h2 => decide_eq_true (Rat.le_trans (of_decide_eq_true h1) (of_decide_eq_true h2)),
    fun a b => by rw [Bool.or_eq_true, decide_eq_true_eq, decide_eq_true_eq]; exact Rat.le_total⟩

/-- every raw block gets exactly one number -/
theorem order_perm (bs : List (Rat × α)) : (orderBlocks bs).Perm bs := List.mergeSort_perm bs _

/-- **numbered bottom-to-top**: lowest y is non-decreasing along the numbering -/
theorem order_sorted (bs : List (Rat × α)) : (orderBlocks bs).Pairwise fun a b => a.1 ≤ b.1 :=
  (List.pairwise_mergeSort (le := fun a b : Rat × α => decide (a.1 ≤ b.1)) le_props.1 le_props.2 bs).imp
    of_decide_eq_true

/-- rounding lowers every lowest y by the same `rc`, so the rounded blocks are in bottom-to-top order as well -/
theorem order_sorted_rounded (bs : List (Rat × α)) (rc : Rat) :
    ((orderBlocks bs).map fun p => p.1 - rc).Pairwise (· ≤ ·) := by
  rw [List.pairwise_map]
  exact (order_sorted bs).imp fun h => sub_le_sub_right h rc

theorem order_length (bs : List (Rat × α)) : (orderBlocks bs).length = bs.length := List.length_mergeSort bs

end order

section removal
variable {α : Type}

theorem mem_insertDesc (x y : Nat) (l : List Nat) : y ∈ insertDesc x l ↔ y = x ∨ y ∈ l := by
  induction l with
  | nil => exact List.mem_cons
  | cons z zs ih =>
    unfold insertDesc
    split_ifs with h1 h2
    · exact List.mem_cons
    · rw [h2, List.mem_cons, or_self_left]
    · rw [List.mem_cons, ih, List.mem_cons, or_left_comm]

theorem mem_sortedSetDesc (y : Nat) (l : List Nat) : y ∈ sortedSetDesc l ↔ y ∈ l := by
  induction l with
  | nil => rfl
  | cons x xs ih => exact (mem_insertDesc x y _).trans ((or_congr_right ih).trans List.mem_cons.symm)

theorem insertDesc_desc (x : Nat) (l : List Nat) (h : l.Pairwise (· > ·)) : (insertDesc x l).Pairwise (· > ·) := by
  induction l with
  | nil => exact List.pairwise_singleton _ _
  | cons z zs ih =>
    obtain ⟨hz, hzs⟩ := List.pairwise_cons.mp h
    unfold insertDesc
    split_ifs with h1 h2
    · exact List.pairwise_cons.mpr ⟨List.forall_mem_cons.mpr ⟨h1, fun a ha => (hz a ha).trans h1⟩, h⟩
    · exact h
    · refine List.pairwise_cons.mpr ⟨fun a ha => ?_, ih hzs⟩
      rcases (mem_insertDesc x a zs).mp ha with rfl | ha
      · omega
      · exact hz a ha

/-- the indices are processed highest first, each once -/
theorem sortedSetDesc_desc (l : List Nat) : (sortedSetDesc l).Pairwise (· > ·) := by
  induction l with
  | nil => exact List.Pairwise.nil
  | cons x xs ih => exact insertDesc_desc x _ ih

theorem keepFrom_congr (k : Nat) (ds ds' : List Nat) (h : ∀ x, x ∈ ds ↔ x ∈ ds') (l : List α) :
    keepFrom k ds l = keepFrom k ds' l := by
  induction l generalizing k with
  | nil => rfl
  | cons a as ih => simp only [keepFrom, h k, ih]

theorem keepFrom_below (k : Nat) (ds : List Nat) (h : ∀ x ∈ ds, x < k) (l : List α) : keepFrom k ds l = l := by
  induction l generalizing k with
  | nil => rfl
  | cons a as ih =>
    rw [keepFrom, if_neg fun hk => (h k hk).false, ih (k + 1) fun x hx => (h x hx).trans k.lt_succ_self]

/-- the other listed numbers being lower, what follows position `d` is kept whole, so its renumbering does not matter -/
theorem keepFrom_eraseIdx (k d : Nat) (ds : List Nat) (l : List α) (h : ∀ x ∈ ds, x < k + d) :
    keepFrom k ds (l.eraseIdx d) = keepFrom k ((k + d) :: ds) l := by
  induction l generalizing k d with
  | nil => rfl
  | cons a as ih =>
    cases d with
    | zero =>
      rw [Nat.add_zero] at h ⊢
      rw [List.eraseIdx_cons_zero, keepFrom, if_pos List.mem_cons_self, keepFrom_below k ds h, keepFrom_below (k + 1)]
      exact List.forall_mem_cons.mpr ⟨k.lt_succ_self, fun x hx => (h x hx).trans k.lt_succ_self⟩
    | succ d =>
      have hk : k ∈ (k + (d + 1)) :: ds ↔ k ∈ ds := List.mem_cons.trans (or_iff_right (by omega))
      rw [List.eraseIdx_cons_succ, keepFrom, keepFrom, ih (k + 1) d (by rwa [Nat.add_right_comm, Nat.add_assoc]),
        Nat.add_right_comm, Nat.add_assoc]
      simp only [hk]

/-- deleting highest first: a deletion leaves the lower indices in range and what they name in place, so the fold fails iff
some index is out of range, and else leaves the elements that are not listed -/
theorem foldlM_delAt (ds : List Nat) (l : List α) (hdesc : ds.Pairwise (· > ·)) :
    ds.foldlM delAt? l = if ∀ d ∈ ds, d < l.length then some (keepFrom 0 ds l) else none := by
  induction ds generalizing l with
  | nil => rw [if_pos (fun _ h => nomatch h), keepFrom_below 0 [] (fun _ h => nomatch h) l]; rfl
  | cons d ds ih =>
    obtain ⟨hd, hds⟩ := List.pairwise_cons.mp hdesc
    rw [List.foldlM_cons, delAt?]
    by_cases hl : d < l.length
    · have hall : ∀ x ∈ d :: ds, x < l.length := List.forall_mem_cons.mpr ⟨hl, fun x hx => Nat.lt_trans (hd x hx) hl⟩
      have hlow : ∀ x ∈ ds, x < (l.eraseIdx d).length := fun x hx => by
        rw [List.length_eraseIdx_of_lt hl]
        exact Nat.lt_of_lt_of_le (hd x hx) (Nat.le_sub_one_of_lt hl)
      rw [if_pos hl, Option.bind_eq_bind, Option.bind_some, ih _ hds, if_pos hlow, if_pos hall, keepFrom_eraseIdx 0 d ds l,
        Nat.zero_add]
      rwa [Nat.zero_add]
    · rw [if_neg hl, if_neg fun h => hl (h d List.mem_cons_self)]; rfl

/-- the whole of `removeIdx?`: `IndexError` iff some index is not a block number; else the blocks not listed survive -/
theorem removeIdx?_eq (l : List α) (idx : List Nat) :
    removeIdx? l idx = if ∀ i ∈ idx, i < l.length then some (keepFrom 0 idx l) else none := by
  rw [removeIdx?, foldlM_delAt _ l (sortedSetDesc_desc idx), keepFrom_congr 0 _ idx fun x => mem_sortedSetDesc x idx]
  simp only [mem_sortedSetDesc]

/-- **removal deletes exactly the blocks with the listed numbers** (any order, repetitions allowed): for in-range
indices the survivors are the blocks whose number is not listed, in their order -/
theorem remove_exact (l : List α) (idx : List Nat) (hin : ∀ i ∈ idx, i < l.length) :
    removeIdx? l idx = some (keepFrom 0 idx l) := by
  rw [removeIdx?_eq, if_pos hin]

/-- what `keepFrom` keeps, said with positions: element `i` survives iff `i` is not listed -/
theorem keepFrom_eq_filter (k : Nat) (ds : List Nat) (l : List α) :
    keepFrom k ds l = ((l.zipIdx k).filter fun p => decide (p.2 ∉ ds)).map (·.1) := by
  induction l generalizing k with
  | nil => rfl
  | cons a as ih =>
    simp only [keepFrom, List.zipIdx_cons, List.filter_cons]
    by_cases hk : k ∈ ds <;> simp [hk, ih]

theorem length_keepFrom_add (k : Nat) (ds : List Nat) (l : List α) :
    (keepFrom k ds l).length + ((List.range' k l.length).filter (· ∈ ds)).length = l.length := by
  induction l generalizing k with
  | nil => rfl
  | cons a as ih =>
    have := ih (k + 1)
    by_cases hk : k ∈ ds <;> simp only [keepFrom, List.length_cons, List.range'_succ, List.filter_cons, hk, decide_true,
      decide_false, if_true, if_false, Bool.false_eq_true] <;> omega

theorem remove_length (l : List α) (idx : List Nat) (hin : ∀ i ∈ idx, i < l.length) (hnd : idx.Nodup) :
    ∃ r, removeIdx? l idx = some r ∧ r.length + idx.length = l.length := by
  refine ⟨_, remove_exact l idx hin, ?_⟩
  have hp : ((List.range' 0 l.length).filter (· ∈ idx)).Perm idx :=
    (List.perm_ext_iff_of_nodup ((List.nodup_range' (s := 0)).filter _) hnd).mpr fun i => by
      simpa [List.mem_range'_1] using hin i
  rw [← hp.length_eq]
  exact length_keepFrom_add 0 idx l

/-- an index that is not a block number is an error (Python's `IndexError`), nothing is returned -/
theorem remove_out_of_range (l : List α) (idx : List Nat) (h : ∃ i ∈ idx, l.length ≤ i) : removeIdx? l idx = none := by
  obtain ⟨i, hi, hle⟩ := h
  rw [removeIdx?_eq, if_neg fun hin => (hin i hi).not_ge hle]

/-- the whole list logic of `_dig`: with in-range indices the result is the rounded blocks in bottom-to-top order minus the
listed numbers -/
theorem dig_spec {β : Type} (raw : List (Rat × α)) (round : α → β) (remove : List Nat)
    (hin : ∀ i ∈ remove, i < raw.length) :
    dig raw round remove = some (keepFrom 0 remove ((orderBlocks raw).map fun p => round p.2)) :=
  remove_exact _ _ (by rwa [List.length_map, order_length])

end removal

example : removeIdx? ["b0", "b1", "b2", "b3"] [1, 1] = some ["b0", "b2", "b3"] := by decide
example : removeIdx? ["b0", "b1", "b2", "b3"] [0, 3, 1] = some ["b2"] := by decide
example : removeIdx? ["b0", "b1"] [2] = none := by decide
/-- without the `set`, a repeated index deletes a second block -/
example : ([1, 1] : List Nat).foldlM delAt? ["b0", "b1", "b2", "b3"] = some ["b0", "b3"] := by decide

end Femto.C05
