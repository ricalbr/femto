/-
C15 — raster paths expose exactly the black pixels.
-/
import FemtoVerif.Model.Raster
import FemtoVerif.Props.C11

namespace Femto.C15
open Femto Femto.Ras

variable {α : Type}

theorem tr_false (a : α) (t : List (α × Bool)) : trueRuns ((a, false) :: t) = trueRuns t := by simp [trueRuns]
theorem tr_single (a : α) : trueRuns [(a, true)] = [[a]] := by simp [trueRuns]
theorem tr_tf (a b : α) (t : List (α × Bool)) : trueRuns ((a, true) :: (b, false) :: t) = [a] :: trueRuns t := by
  simp [trueRuns]
theorem tr_tt (a b : α) (t : List (α × Bool)) :
    trueRuns ((a, true) :: (b, true) :: t) = consRun a (trueRuns ((b, true) :: t)) := by simp [trueRuns]

theorem trueRuns_eq_pieces (l : List (α × Bool)) : trueRuns l = ((pieces l).filter (·.1)).map (·.2) := by
  induction l with
  | nil => rfl
  | cons hd t ih =>
    obtain ⟨a, b⟩ := hd
    obtain ⟨run, rest, h, h'⟩ := C11.pieces_cons a b t
    rw [h]
    cases b with
    | false => rw [tr_false, ih]; rcases h' with h' | ⟨rfl, h', _⟩ <;> simp [h']
    | true =>
      cases t with
      | nil => obtain ⟨⟨⟩⟩ | ⟨rfl, ⟨⟩, _⟩ := h'; rfl
      | cons x t' =>
        obtain ⟨c, d⟩ := x
        obtain ⟨run', rest', hp, _⟩ := C11.pieces_cons c d t'
        rw [hp] at h' ih
        -- `a` joins the first run of the tail exactly when the tail begins selected
        cases d with
        | true =>
          obtain ⟨⟨⟩⟩ | ⟨_, rfl, hne⟩ := h'
          · rw [tr_tt, ih]; rfl
          · exact absurd rfl (hne _ rfl)
        | false =>
          obtain ⟨⟨⟩⟩ | ⟨rfl, rfl, _⟩ := h'
          rw [tr_tf, ← tr_false c, ih]; rfl

private theorem trueRuns_true_ne_nil (a : α) (t : List (α × Bool)) : trueRuns ((a, true) :: t) ≠ [] := by
  rw [trueRuns_eq_pieces]
  obtain ⟨run, rest, hp, _⟩ := C11.pieces_cons a true t
  rw [hp]; simp

theorem consRun_append (a : α) {rs : List (List α)} (h : rs ≠ []) (ss : List (List α)) :
    consRun a (rs ++ ss) = consRun a rs ++ ss := by
  cases rs with
  | nil => exact absurd rfl h
  | cons r rs => rfl

theorem trueRuns_append_false (l₁ l₂ : List (α × Bool)) (x : α) :
    trueRuns (l₁ ++ (x, false) :: l₂) = trueRuns l₁ ++ trueRuns l₂ := by
  induction l₁ using trueRuns.induct with
  | case1 => exact tr_false x l₂
  | case2 a t ih => rw [List.cons_append, tr_false, tr_false, ih]
  | case3 a => exact tr_tf a x l₂
  | case4 a b t ih => rw [List.cons_append, List.cons_append, tr_tf, tr_tf, ih]; rfl
  | case5 a b t ih =>
    rw [List.cons_append, List.cons_append, tr_tt, tr_tt, ← List.cons_append, ih,
      consRun_append a (trueRuns_true_ne_nil b t)]

/-! ### how strokes decompose: closed rows separate them, an all-open block is one stroke -/

theorem trueRuns_all_true (l : List α) (h : l ≠ []) : trueRuns (l.map fun a => (a, true)) = [l] := by
  induction l with
  | nil => exact absurd rfl h
  | cons a t ih =>
    cases t with
    | nil => rfl
    | cons b t' => exact (tr_tt a b _).trans (congrArg (consRun a) (ih (List.cons_ne_nil _ _)))

theorem strokes_nil : strokes [] = [] := rfl

theorem strokes_append_closed (t₁ t₂ : List (Row Rat)) (r : Row Rat) (hr : r.s = 0) :
    strokes (t₁ ++ r :: t₂) = strokes t₁ ++ strokes t₂ := by
  simp [strokes, hr, trueRuns_append_false]

theorem strokes_cons_closed {r : Row Rat} {t : List (Row Rat)} (hr : r.s = 0) : strokes (r :: t) = strokes t :=
  strokes_append_closed [] t r hr

theorem strokes_all_open {t : List (Row Rat)} (h : t ≠ []) (ho : ∀ r ∈ t, r.s ≠ 0) : strokes t = [dedup (t.map p3)] := by
  have : t.map (fun r => (p3 r, decide (r.s ≠ 0))) = (t.map p3).map fun p => (p, true) := by
    rw [List.map_map]; exact List.map_congr_left fun r hr => by simp [ho r hr]
  rw [strokes, this, trueRuns_all_true _ (by simpa using h)]; rfl

theorem strokes_bar {c o o' c' : Row Rat} {rest : List (Row Rat)} (hc : c.s = 0) (ho : o.s ≠ 0) (ho' : o'.s ≠ 0)
    (hc' : c'.s = 0) : strokes (c :: o :: o' :: c' :: rest) = dedup [p3 o, p3 o'] :: strokes rest := by
  rw [strokes_cons_closed hc]
  refine (strokes_append_closed [o, o'] rest c' hc').trans ?_
  rw [strokes_all_open (t := [o, o']) (List.cons_ne_nil _ _)
    (List.forall_mem_cons.mpr ⟨ho, List.forall_mem_singleton.mpr ho'⟩)]
  rfl

theorem strokes_append {t₁ t₂ : List (Row Rat)} (h : ∀ r ∈ t₂.head?, r.s = 0) :
    strokes (t₁ ++ t₂) = strokes t₁ ++ strokes t₂ := by
  cases t₂ with
  | nil => simp [strokes_nil]
  | cons r t => rw [strokes_append_closed _ _ _ (h r rfl), strokes_cons_closed (h r rfl)]

theorem strokes_flatMap {ι : Type} {f : ι → List (Row Rat)} {l : List ι} (h : ∀ i ∈ l, ∀ r ∈ (f i).head?, r.s = 0) :
    strokes (l.flatMap f) = l.flatMap fun i => strokes (f i) := by
  induction l using List.reverseRecOn with
  | nil => rfl
  | append_singleton t i ih =>
    rw [List.flatMap_append, List.flatMap_append, List.flatMap_singleton, List.flatMap_singleton,
      strokes_append (h i (by simp)), ih fun j hj => h j (by simp [hj])]

theorem flatMap_head_closed {ι : Type} {f : ι → List (Row Rat)} {l : List ι} (h : ∀ i ∈ l, ∀ r ∈ (f i).head?, r.s = 0) :
    ∀ r ∈ (l.flatMap f).head?, r.s = 0 := by
  intro r hr
  rw [Option.mem_def, List.head?_flatMap] at hr
  obtain ⟨i, hi, hr⟩ := List.exists_of_findSome?_eq_some hr
  exact h i hi r hr

private theorem strokes_block (xa xb y z sp sc : Rat) :
    strokes (block xa xb y z sp sc) = [dedup [(xa, y, z), (xb, y, z)]] :=
  (strokes_bar rfl (by decide : (1 : Rat) ≠ 0) (by decide : (1 : Rat) ≠ 0) rfl).trans
    (congrArg _ (strokes_cons_closed rfl))

private theorem rowBlocks_eq (xs : List Rat) (black : List Bool) (y z sp sc : Rat) :
    rowBlocks xs black y z sp sc = (trueRuns (xs.zip black)).flatMap (runBlock y z sp sc) := by
  unfold rowBlocks
  cases black with
  | nil => simp [splitMask, trueRuns]
  | cons m0 mask =>
    rw [C11.splitMask_eq_true_pieces, ← trueRuns_eq_pieces]

private theorem trueRuns_nonempty (l : List (α × Bool)) : ∀ r ∈ trueRuns l, r ≠ [] := by
  rw [trueRuns_eq_pieces]
  intro r hr
  obtain ⟨p, hp, rfl⟩ := List.mem_map.mp hr
  exact C11.pieces_nonempty _ p (List.mem_filter.mp hp).1

private theorem runBlock_of_ne {y z sp sc : Rat} {run : List Rat} (h : run ≠ []) :
    runBlock y z sp sc run = block (run.head h) (run.getLast h) y z sp sc := by
  simp [runBlock, List.head?_eq_some_head h, List.getLast?_eq_some_getLast h]

private theorem runBlock_head {y z sp sc : Rat} {run : List Rat} : ∀ r ∈ (runBlock y z sp sc run).head?, r.s = 0 := by
  unfold runBlock
  split
  · rintro r ⟨⟩; rfl
  · rintro r ⟨⟩

private theorem rowBlocks_head {xs : List Rat} {black : List Bool} {y z sp sc : Rat} :
    ∀ r ∈ (rowBlocks xs black y z sp sc).head?, r.s = 0 := by
  rw [rowBlocks_eq]
  exact flatMap_head_closed fun _ _ => runBlock_head

/-- **C15, main theorem.** For every image (any size, any pixel pattern) and every scale, depth and pair of speeds,
the open-shutter strokes of the raster path are exactly: rows in image order, in each row one stroke per maximal run of
black pixels, from the first to the last pixel of the run at that row's height (a single-pixel run gives a one-point
stroke). Everything else in the path is shutter-closed by the definition of a stroke. -/
theorem raster_strokes (img : List (List Bool)) (px z sp sc : Rat) :
    strokes (imagePath img px z sp sc) = expectedStrokes img px z := by
  unfold imagePath expectedStrokes
  simp only
  rw [strokes_flatMap fun _ _ => rowBlocks_head]
  refine List.flatMap_congr fun ry _ => ?_
  rw [rowBlocks_eq, List.map_eq_flatMap]
  have hne := trueRuns_nonempty ((scan ((img.head?.map List.length).getD 0) px).zip ry.1)
  rw [strokes_flatMap fun _ _ => runBlock_head]
  refine List.flatMap_congr fun run hr => ?_
  rw [runBlock_of_ne (hne run hr), strokes_block, List.head?_eq_some_head (hne run hr),
    List.getLast?_eq_some_getLast (hne run hr)]

/-- **white pixels are never exposed**: the x positions of every stroke of a row are grid positions of black pixels
(first and last element of a run of selected columns) -/
theorem stroke_ends_black (xs : List Rat) (black : List Bool) (run : List Rat) (h : run ∈ trueRuns (xs.zip black)) :
    ∀ x ∈ run, (x, true) ∈ xs.zip black := by
  rw [trueRuns_eq_pieces] at h
  obtain ⟨p, hp, rfl⟩ := List.mem_map.mp h
  obtain ⟨hp1, hp2⟩ := List.mem_filter.mp hp
  intro x hx
  rw [← C11.pieces_flatten (xs.zip black)]
  exact List.mem_flatMap.mpr ⟨p, hp1, List.mem_map.mpr ⟨x, hx, by rw [hp2]⟩⟩

theorem first_closed (img : List (List Bool)) (px z sp sc : Rat) (r : Row Rat)
    (h : (imagePath img px z sp sc).head? = some r) : r.s = 0 :=
  flatMap_head_closed (fun _ _ => rowBlocks_head) r h

/-! a 5x2 image with a border run, a single pixel and an all-white row -/
example : expectedStrokes [[true, true, false, true, false], [false, false, false, false, false]] 1 0
    = [[(0, 0, 0), (5/4, 0, 0)], [(15/4, 0, 0)]] := by decide +kernel

example : strokes (imagePath [[true, true, false, true, false], [false, false, false, false, false]] 1 0 2 5)
    = [[(0, 0, 0), (5/4, 0, 0)], [(15/4, 0, 0)]] := by decide +kernel

end Femto.C15
