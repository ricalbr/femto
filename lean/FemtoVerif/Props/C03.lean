/-
C03 — every emitted program is well-formed and shutter-safe, even after errors.
-/
import FemtoVerif.Proofs.Session
import FemtoVerif.Proofs.Good
import FemtoVerif.Proofs.WriteLemmas
import FemtoVerif.Props.C01
import FemtoVerif.Proofs.Rot
import FemtoVerif.Proofs.Vars
import FemtoVerif.Proofs.Loaded
import FemtoVerif.Spec.WF
import FemtoVerif.Gen.Data


namespace Femto.C03
open Femto.Ctl Femto.Gc

/-- **Balanced and properly nested, whatever happens.** For every configuration and every finite sequence of compiler
operations — any nesting of REPEAT / FOR / axis-rotation blocks, rejected operations, and a user exception raised at
any position — the text written by the context manager parses on the reference controller's loop stack, and its
loop structure is exactly the one the operations built (crash included: every open block is closed by its `finally`). -/
theorem session_balanced (cfg : Cfg) (ops : List Op) (hh : headerClean cfg.header = true) :
    structure? (flattenStmts (session cfg ops).1) = some (session cfg ops).1 :=
  structure?_flattenStmts _ (session_ok cfg ops hh).1

def headerGood (h : List Instr) : Bool := h.all goodInstr

/-- **Every instruction is known, every feed positive, every loop count positive** — in the whole file, also after a
crash.  (`goodList` also demands that no atom is a stray loop delimiter.) -/
theorem session_atoms_good (cfg : Cfg) (ops : List Op) (hh : headerGood cfg.header = true) (hsp : speedOK cfg) :
    goodList (session cfg ops).1 = true := by
  obtain ⟨R, ⟨r1, r2⟩, e⟩ := (ResGood.compositional hsp).session ops
  rw [e, goodList_append, goodList_append, r2, goodList_emit _ (List.all_eq_true.mp hh), r1]
  rfl

/-- **`move_to` never moves with the shutter open.**  From every controller state whose shutter agrees with the
compiler's belief (open or closed!), every motion caused by the instructions `move_to` emits — also when it then
rejects the speed — happens with the shutter closed. -/
theorem moveTo_closed (cfg : Cfg) (x y z sp : Option Rat) (cs : CS) (σ : St) (hsh : σ.shutter = cs.shutterOn) :
    ∀ m ∈ movesOf (execFlat (flattenStmts (moveTo cfg x y z sp cs).1.1) σ).2, m.shutter = false :=
  (moveTo_exec cfg x y z sp cs σ hsh).1

def closedMatrix (m : List Pt) : Bool :=
  m.all (fun p => decide (p.s = 0) || decide (p.s = 1)) && (match m.getLast? with | some p => decide (p.s = 0) | none => true)

mutual
  def closedOp : Op → Bool
    | .write m => closedMatrix m
    | .rep _ body => closedOps body
    | .forr _ _ body => closedOps body
    | .axisRot _ body => closedOps body
    | .attempt body => closedOps body
    | _ => true
  def closedOps : List Op → Bool
    | [] => true
    | op :: ops => closedOp op && closedOps ops
end

private theorem write_sh (cfg : Cfg) (m : List Pt) (cs : CS) (o : Out) (h : write cfg m cs = .ok o)
    (hc : closedMatrix m = true) (h0 : cs.shutterOn = false) : o.2.shutterOn = false := by
  simp only [closedMatrix, Bool.and_eq_true, List.all_eq_true, Bool.or_eq_true, decide_eq_true_eq] at hc
  exact Femto.C01.write_ends_closed h hc.1 (fun p hp => by rw [hp] at hc; simpa using hc.2) h0

private theorem moveTo_sh (cfg : Cfg) (x y z sp : Option Rat) (cs : CS) : (moveTo cfg x y z sp cs).1.2.shutterOn = false :=
  (moveTo_exec cfg x y z sp cs { shutter := cs.shutterOn } rfl).2.2

/-! Everything else keeps the belief, because it prints no `PSOCONTROL`. -/

private theorem prog_noPso (i : Instr) (h : progInstr i = true) : isPso i = false := by
  unfold isPso
  split
  · cases h
  · rfl

private theorem rot_noPso (cfg : Cfg) (i : Instr) (h : rotInstr cfg i = true) : isPso i = false := by
  unfold isPso
  split
  · cases h
  · rfl

private theorem sh_control (cfg : Cfg) : Control cfg fun cs r => cs.shutterOn = false → r.cs.shutterOn = false where
  stop _ _ h := h
  andThen ha hf h := andThen_cs (I := (·.shutterOn = false)) (ha h) fun c => hf c
  rep _ hr := hr
  forr _ _ hr := hr
  rot {a cs r} hr h :=
    ((exitRot_emits cfg r.cs).shutter (rot_noPso cfg)).trans (hr (((enterRot_emits cfg a cs).shutter (rot_noPso cfg)).trans h))
  attempt hr := hr

private theorem closed_guard : Guard (closedOp · = true) (closedOps · = true) where
  cons g := by simpa [closedOps] using g
  rep g := g
  forr g := g
  rot g := g
  attempt g := g

private theorem still {cs : CS} {o : Out} (e : Emits (fun i => !isPso i) cs o) (h : cs.shutterOn = false) : o.2.shutterOn = false :=
  (e.shutter fun i hi => by simpa using hi).trans h

private theorem leaf_sh (cfg : Cfg) (op : Op) (cs : CS) (hb : op.isBlock = false) (hc : closedOp op = true)
    (h : cs.shutterOn = false) : (execOp cfg op cs).cs.shutterOn = false := by
  have prog : ∀ {r : Res}, Lines progInstr cs r → r.cs.shutterOn = false := fun e => (e.shutter prog_noPso).trans h
  cases op with
  | write m =>
    simp only [execOp]
    cases hw : write cfg m cs with
    | ok o => exact write_sh cfg m cs o hw hc h
    | error e => exact h
  | moveTo x y z sp => exact moveTo_sh cfg x y z sp cs
  | goOrigin =>
    exact andThen_cs (I := (·.shutterOn = false)) (still (comment_emits rfl (fun _ => rfl) true cs) h) fun c _ => moveTo_sh cfg _ _ _ _ c
  | goInit => exact moveTo_sh cfg _ _ _ _ cs
  | dwell p => exact still (dwell_emits (fun _ => rfl) p cs) h
  | comment b => exact still (comment_emits rfl (fun _ => rfl) b cs) h
  | setHome x y z => simp only [execOp]; split <;> exact h
  | load p t => exact prog (loadOp_prog p t cs)
  | farcall p => exact prog (farcallOp_prog cfg p cs)
  | buffered p t => exact prog (bufferedOp_prog cfg p t cs)
  | remove p t => exact prog (removeOp_prog p t cs)
  | farcallList items => exact prog (farcallListOp_prog cfg items cs)
  | dvar _ | raise | loadBad _ => exact h
  | _ => cases hb

private theorem execOp_sh (cfg : Cfg) (op : Op) (cs : CS) (hc : closedOp op = true) (h : cs.shutterOn = false) :
    (execOp cfg op cs).cs.shutterOn = false :=
  (sh_control cfg).execOp closed_guard (leaf_sh cfg) op cs hc h

/-- **Shutter closed when the program ends.**  If every written path is closed, then after the whole session — however
it ended: normally, by a rejected operation or by a user exception anywhere — the compiler believes the shutter closed;
by `C01.write_replays` and `moveTo_closed` that belief is the controller's shutter state. -/
theorem session_shutter_closed (cfg : Cfg) (ops : List Op) (hc : closedOps ops = true) :
    (session cfg ops).2.shutterOn = false := by
  have htail : ∀ cs : CS, cs.shutterOn = false → (sessionTail cfg cs).2.shutterOn = false := fun cs h => by
    simp only [sessionTail, seq]
    split
    · exact moveTo_sh cfg _ _ _ _ _
    · split <;> exact h
  obtain ⟨R, hR, e⟩ := sessionWith_res (sh_control cfg) (still (sessionStart_emits rfl fun _ => rfl))
    htail _ fun cs => (sh_control cfg).execOps closed_guard (leaf_sh cfg) ops cs hc
  rw [show session cfg ops = _ from e]
  exact hR rfl

private theorem dwell_loaded (q : Option Rat) (c : CS) : (dwell q c).2.loaded = c.loaded :=
  (dwell_emits (p := plainInstr) (fun _ => rfl) q c).loaded

/-- one item of `farcall_list`: once the load is accepted, so are the call and the removal of the same file -/
private theorem item_loaded (cfg : Cfg) (p : String) (t : Nat) (cs : CS) (hp : stemOf p ∉ cs.loaded) :
    ((((loadOp p t cs).andThen (farcallOp cfg (posixName p))).andThen fun cs => Res.ofOut (dwell cfg.shortPause cs)).andThen
      (removeOp (posixName p) t)).cs.loaded = cs.loaded := by
  by_cases hx : isPgm p = true
  · simp [Res.andThen, loadOp, farcallOp, removeOp, Res.ofOut, seq, hx, isPgm_posixName, stemOf_posixName, hp,
      dwell_loaded, List.erase_append_right]
  · simp [Res.andThen, loadOp, hx]

/-- **`farcall_list` is balanced**: when none of the listed programs is loaded beforehand, the list of loaded programs
afterwards is what it was before — also when the call fails at the k-th file (wrong extension) -/
theorem farcallList_balanced (cfg : Cfg) (items : List (String × Nat)) (cs : CS)
    (hnew : ∀ it ∈ items, stemOf it.1 ∉ cs.loaded) :
    (farcallListOp cfg items cs).cs.loaded = cs.loaded := by
  induction items generalizing cs with
  | nil => rfl
  | cons hd rest ih =>
    rw [farcallListOp]
    refine andThen_cs (I := (·.loaded = cs.loaded)) (item_loaded cfg _ _ cs (hnew hd (by simp))) fun c hc => ?_
    refine andThen_cs (I := (·.loaded = cs.loaded)) ?_ fun c' hc' => (ih c' fun it hit => hc' ▸ hnew it (by simp [hit])).trans hc'
    exact (dwell_loaded _ c).trans hc

/-- **An activated axis rotation is deactivated.**  In program order the G84 state after the written file is "off" — with or
without a session-wide Aerotech angle, for any nesting of axis-rotation blocks inside loops and inside each other, and wherever
an operation was rejected or the user's code raised: `G84` lines come only from entering and leaving a rotation, and every
rotation block (and the session-wide one) is closed by the leaving sequence, which ends with `G84 X Y`. -/
theorem session_rotation_off (cfg : Cfg) (ops : List Op) (hh : scanRot cfg.header false = false) :
    scanRot (flattenStmts (session cfg ops).1) false = false := by
  obtain ⟨R, ⟨r1, r2⟩, e⟩ := (ResRot.compositional cfg).session ops
  show rotEnd _ false = false
  simp only [e, rotEnd_append]
  rw [show rotEnd R.pre false = false from rotEnd_noG84List _ r2 _,
    show rotEnd (emit cfg.header) false = false by rw [rotEnd, flattenStmts_emit, hh]]
  exact (r1 false).elim id id

/-- the leaving sequence switches the rotation off from any state -/
theorem exit_rotation_off (cfg : Cfg) (cs : CS) (r : Bool) : scanRot (flattenStmts (exitRot cfg cs).1) r = false :=
  exitRot_off cfg cs r

/-- the shipped headers leave the rotation off (hypothesis of `session_rotation_off`) -/
theorem shipped_headers_rotation_off : ∀ h ∈ Femto.Gen.headers, scanRot h.2.2 false = false := by decide

/-- non-vacuity: a rotation block whose body raises inside a loop, under a session-wide rotation -/
example : scanRot (flattenStmts (session { header := Femto.Gen.header_uwe, aeroAngle := 30 }
    [.axisRot (some 12) [.rep 3 [.dwell (some 1), .raise]], .goOrigin]).1) false = false :=
  session_rotation_off _ _ (by decide)

/-- **Loop variables are declared.**  In program order every FOR variable of the written file has been declared by a DVAR
line earlier in the text — with declarations made anywhere (they are hoisted to the top of the file), any nesting, and
wherever an operation was rejected or the user's code raised: `for_loop` refuses a variable that has not been declared, and
nothing else the compiler emits declares, assigns or loops over a variable. -/
theorem session_vars_declared (cfg : Cfg) (ops : List Op) (hh : headerVarFree cfg.header = true) :
    scanVars (flattenStmts (session cfg ops).1) [] = true := by
  obtain ⟨R, hr, e⟩ := (ResV.compositional cfg).session ops
  obtain ⟨D', e1, e2⟩ := scanVars_pre _ hr.pre hr.lowerPre (flattenStmts (emit cfg.header ++ R.out)) []
  -- every name the compiler knows at the end was declared by a hoisted line: it knew none at the start
  have hD : ∀ v, R.cs.dvars.contains v = true → D'.contains v = true := fun v hv =>
    (hr.hoisted v hv).elim nofun fun h => by simpa [e2] using h
  have hall : vfList D' (emit cfg.header ++ R.out) = true := by
    rw [vf_append, vf_emit _ (List.all_eq_true.mp hh), vfList_mono hD _ hr.out]; rfl
  rw [e, List.append_assoc, flattenStmts_append, e1]
  simpa [scanVars] using scanVars_vfList D' _ hall []

/-- the shipped headers neither declare nor use variables (hypothesis of `session_vars_declared`) -/
theorem shipped_headers_var_free : ∀ h ∈ Femto.Gen.headers, headerVarFree h.2.2 = true := by decide

/-- non-vacuity: a FOR over a declared variable inside a REPEAT, an undeclared one refused (nothing emitted for it) -/
example : scanVars (flattenStmts (session { header := Femto.Gen.header_uwe }
    [.dvar ["K"], .rep 2 [.forr "k" 3 [.dwell (some 1)]], .forr "j" 2 [.dwell (some 1)]]).1) [] = true :=
  session_vars_declared _ _ (by decide)

/-- **Every called sub-program was loaded before (calls to unloaded programs are refused).**  In program order every
`FARCALL`, `PROGRAM n BUFFEREDRUN` and `REMOVEPROGRAM` of the written file names a program that an earlier `PROGRAM n LOAD`
brought in and that no `REMOVEPROGRAM` in between took out (the scan `scanLoaded` behind `WF.callsLoaded` succeeds) — at any
nesting inside loops, rotation blocks and the user's own try / except, wherever an operation was rejected or the user's code raised.
Hypothesis `KeysAgree`: the compiler's bookkeeping (case-sensitive stem of the file name) and the controller's (lower-cased
base name without the last extension) tell the file names used in the session apart in the same way; without it the
statement is false (`calls_loaded_needs_keys_agree` below). -/
theorem session_calls_loaded (cfg : Cfg) (ops : List Op) (hh : ∀ i ∈ cfg.header, noLdInstr i = true)
    (hU : KeysAgree (pathsOps ops)) : (scanLoaded (flattenStmts (session cfg ops).1) []).isSome = true := by
  obtain ⟨R, ⟨r1, r2⟩, e⟩ := sessionWith_res (ResLd.control (pathsOps ops) cfg) (ResLd.ofPlain (sessionStart_emits rfl fun _ => rfl))
    (fun cs => ResLd.ofPlain (sessionTail_emits cfg cs)) _ fun cs => execOps_ld hU cfg ops cs fun _ hq => hq
  obtain ⟨L', e', _⟩ := r2 [] ⟨List.nodup_nil, fun q _ => by simp⟩
  have h : ldEnd (session cfg ops).1 [] = some L' := by
    rw [show session cfg ops = _ from e]
    simp only [ldEnd_append, ldEnd_noLd _ r1, ldEnd_noLd _ (noLd_emit _ hh), Option.bind_some, e']
  simp only [ldEnd] at h
  simp [h]

/-- the shipped headers load, call and remove nothing (hypothesis of `session_calls_loaded`) -/
theorem shipped_headers_load_free : ∀ h ∈ Femto.Gen.headers, ∀ i ∈ h.2.2, noLdInstr i = true := by decide

/-- **the hypothesis cannot be dropped**: two file names that differ only in case are two programs for the compiler and one
for the controller; after `load A, load a, remove A` the compiler still accepts a call of `a`, which the controller no
longer has (DESIGN.md 11.5). -/
theorem calls_loaded_needs_keys_agree :
    (scanLoaded (flattenStmts (session { header := Femto.Gen.header_uwe }
      [.load "A.pgm" 2, .load "a.pgm" 2, .remove "A.pgm" 2, .farcall "a.pgm"]).1) []).isSome = false := by
  decide +kernel

/-- non-vacuity: names in different folders, with and without directory, a rejected call, a call inside a loop inside the
user's try / except, a `farcall_list` -/
example : (scanLoaded (flattenStmts (session { header := Femto.Gen.header_uwe }
      [.load "sub/a.pgm" 2, .farcall "b.pgm", .attempt [.rep 3 [.farcall "a.pgm", .raise]], .farcallList [("c.pgm", 2), ("d.pgm", 3)],
       .buffered "a.pgm" 2, .remove "other/a.pgm" 2, .load "b.pgm" 3]).1) []).isSome = true :=
  session_calls_loaded _ _ (by decide) (by decide +kernel)

/-- the four header files satisfy the header hypotheses of `session_balanced` (which asks for no DWELL) and
`session_atoms_good`, leave the shutter closed, and use the PSO axis the compiler uses for that laser -/
theorem shipped_headers_ok : ∀ h ∈ Femto.Gen.headers,
    headerClean h.2.2 = true ∧ headerGood h.2.2 = true ∧ scanShutter h.2.2 true = false ∧
      h.2.2.all (fun i => match i with | .pso a _ => a == h.2.1 | _ => true) = true := by decide

/-! ### non-vacuity: FOR inside REPEAT inside an axis rotation, exception in the innermost body -/

example : structure? (flattenStmts (session { header := Femto.Gen.header_uwe, aeroAngle := 30 }
      [.dvar ["k"], .axisRot (some 12) [.rep 3 [.forr "K" 2 [.dwell (some 1), .raise, .goInit]]], .goOrigin]).1)
    = some (session { header := Femto.Gen.header_uwe, aeroAngle := 30 }
      [.dvar ["k"], .axisRot (some 12) [.rep 3 [.forr "K" 2 [.dwell (some 1), .raise, .goInit]]], .goOrigin]).1 :=
  session_balanced _ _ (by decide)

/-- non-vacuity with the user's own try / except: a loop whose body raises, swallowed, and the program goes on -/
example : structure? (flattenStmts (session { header := Femto.Gen.header_uwe }
      [.attempt [.rep 3 [.dwell (some 1), .raise]], .loadBad "a.pgm", .goOrigin]).1)
    = some (session { header := Femto.Gen.header_uwe }
      [.attempt [.rep 3 [.dwell (some 1), .raise]], .loadBad "a.pgm", .goOrigin]).1 :=
  session_balanced _ _ (by decide)

end Femto.C03
