/-
C17 — warp compensation follows the measured surface and only changes z.
The composition (where the surface value enters the transformation) is proved for the same `transformK` the driver
executes; the interpolation itself (SciPy's RBF solve, smoothness between samples) is sampled — partial claim.
-/
import FemtoVerif.Model.Transform
import FemtoVerif.Props.C02

namespace Femto.C17
open Femto Femto.C02

section field
variable {K : Type} [Field K]

/-- **x and y are unaffected by the compensation** -/
theorem warp_only_z (sx sy : K) (fx fy : Bool) (c s neff wz x y z : K) :
    (transformK sx sy fx fy c s neff wz x y z).1 = (transformK sx sy fx fy c s neff 0 x y z).1 ∧
    (transformK sx sy fx fy c s neff wz x y z).2.1 = (transformK sx sy fx fy c s neff 0 x y z).2.1 := by
  simp only [transformK_eq_rigid, rigid, and_self]

/-- **the written z is `(z + s(x, y)) / (n_glass / n_environment)`**, with the surface value `wz = s(x, y)` taken at the
point **as given** (before the origin shift, the flips and the rotation — it enters the model as a value attached to the
untransformed point) -/
theorem warp_z (sx sy : K) (fx fy : Bool) (c s neff wz x y z : K) :
    (transformK sx sy fx fy c s neff wz x y z).2.2 = (z + wz) / neff := by
  rw [transformK_eq_rigid, rigid]

/-- with compensation disabled (`wz = 0`) z is only rescaled, and the whole map is the rigid map of C02 -/
theorem warp_off (sx sy : K) (fx fy : Bool) (c s neff x y z : K) :
    (transformK sx sy fx fy c s neff 0 x y z).2.2 = z / neff ∧
    transformK sx sy fx fy c s neff 0 x y z = rigid sx sy fx fy c s neff x y z :=
  ⟨by rw [transform_eq_rigid, rigid], transform_eq_rigid sx sy fx fy c s neff x y z⟩

/-- the compensated map is the rigid map of C02 applied to the point lifted by the surface value -/
theorem warp_is_rigid_of_lifted (sx sy : K) (fx fy : Bool) (c s neff wz x y z : K) :
    transformK sx sy fx fy c s neff wz x y z = rigid sx sy fx fy c s neff x y (z + wz) :=
  transformK_eq_rigid sx sy fx fy c s neff wz x y z

/-- **an interpolant that satisfies the collocation equations reproduces every sample**: if the coefficients `w` (kernel
part) and `d` (polynomial part) solve `Σ_j w_j φ(i, j) + Σ_k d_k p(i, k) = z_i`, then evaluating
`s = Σ_j w_j φ(·, x_j) + Σ_k d_k p_k(·)` at sample `i` gives `z_i` (the solve is SciPy's) -/
theorem interp_reproduces {n m : Nat} (φ : Fin n → Fin n → K) (p : Fin n → Fin m → K) (w : Fin n → K) (d : Fin m → K)
    (z : Fin n → K) (hcol : ∀ i, (Finset.univ.sum fun j => w j * φ i j) + (Finset.univ.sum fun k => d k * p i k) = z i)
    (eval : Fin n → K) (heval : ∀ i, eval i = (Finset.univ.sum fun j => w j * φ i j) + (Finset.univ.sum fun k => d k * p i k)) :
    ∀ i, eval i = z i := fun i => (heval i).trans (hcol i)

end field

/-- non-vacuity: shift, flip and a surface value of 1/4 at the given point -/
example : transformK (1 : ℚ) 0 true false 1 0 2 (1/4) 3 5 1 = (-2, 5, 5/8) := by decide +kernel

end Femto.C17
