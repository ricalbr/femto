/-
C09 — exporting is pure and repeatable.
The models are pure functions, so "the same call gives the same result" holds in them by construction; what can make the
implementation impure — aliasing, accumulating fields — is modelled explicitly (`Model/Purity.lean`), and the frame / idempotence
statements are proved for the operations as they are and refuted, on witnesses, for the in-place / accumulating variants.
-/
import FemtoVerif.Model.Purity
import FemtoVerif.Proofs.Emits
import FemtoVerif.Props.C16


namespace Femto.C09
open Femto.Pur

theorem cell_append_lt (h e : AHeap) (l : Nat) (hl : l < h.length) : AHeap.cell (h ++ e) l = h.cell l := by
  simp [AHeap.cell, List.getD, List.getElem?_append_left hl]

theorem cell_append_self (h : AHeap) (x : Arr) : AHeap.cell (h ++ [x]) h.length = x := by
  simp [AHeap.cell, List.getD]

/-- `shiftNew` only appends cells: `e` is the float32 copy `np.asarray` makes unless the input already is float32 -/
theorem shiftNew_eq (h : AHeap) (l : Nat) (s : Rat) :
    ∃ (e : AHeap) (d : DT), shiftNew h l s = (h ++ e ++ [⟨d, (h.cell l).data.map (· - s)⟩], (h ++ e).length) := by
  unfold shiftNew asF32 subNew
  split
  · exact ⟨[], _, by rw [List.append_nil]⟩
  · exact ⟨[_], _, by simp only; rw [cell_append_self]⟩

/-- **`transform_points` does not modify the arrays it is given** — whatever their dtype, i.e. also when
`np.asarray(..., float32)` returns the caller's own array: every existing cell is unchanged -/
theorem transform_frame (h : AHeap) (l : Nat) (s : Rat) (ℓ : Nat) (hℓ : ℓ < h.length) :
    (shiftNew h l s).1.cell ℓ = h.cell ℓ := by
  obtain ⟨e, d, he⟩ := shiftNew_eq h l s
  rw [he, List.append_assoc]
  exact cell_append_lt h _ ℓ hℓ

/-- the result is the translated data, in a fresh cell -/
theorem transform_result (h : AHeap) (l : Nat) (s : Rat) :
    ((shiftNew h l s).1.cell (shiftNew h l s).2).data = (h.cell l).data.map (· - s) ∧ h.length ≤ (shiftNew h l s).2 := by
  obtain ⟨e, d, he⟩ := shiftNew_eq h l s
  rw [he]
  exact ⟨by rw [cell_append_self], by simp⟩

/-- **repeating the transformation repeats its result** (the second call reads the same, unchanged input) -/
theorem transform_twice (h : AHeap) (l : Nat) (s : Rat) (hl : l < h.length) :
    let h1 := (shiftNew h l s).1
    ((shiftNew h1 l s).1.cell (shiftNew h1 l s).2).data = ((shiftNew h l s).1.cell (shiftNew h l s).2).data := by
  intro h1
  rw [(transform_result h1 l s).1, (transform_result h l s).1]
  show ((shiftNew h l s).1.cell l).data.map _ = _
  rw [transform_frame h l s l hl]

/-- the in-place translation (`x -= shift`) modifies a caller's float32 array and gives another result the second time; a float64
input is copied first and stays (witnesses) -/
theorem transform_old_mutates :
    (shiftOld [⟨.f32, [1, 2]⟩] 0 (1/2)).1.cell 0 ≠ AHeap.cell [⟨.f32, [1, 2]⟩] 0 ∧
    (shiftOld (shiftOld [⟨.f32, [1, 2]⟩] 0 (1/2)).1 0 (1/2)).1.cell 0 ≠ (shiftOld [⟨.f32, [1, 2]⟩] 0 (1/2)).1.cell 0 ∧
    (shiftOld [⟨.f64, [1, 2]⟩] 0 (1/2)).1.cell 0 = AHeap.cell [⟨.f64, [1, 2]⟩] 0 := by decide +kernel

/-- **estimates do not depend on how often they were computed**: a recomputed estimate (floor length reset at the start of
`toolpath()`, device time reset at the start of `pgm()`) has the same value after any number `n ≥ 1` of repetitions -/
theorem estimates_history_independent (parts : List Rat) (old : Rat) (n : Nat) :
    iter (fun v => recompute v parts) (n + 1) old = recompute old parts := by
  induction n generalizing old with
  | zero => rfl
  | succ n ih => rw [iter, ih]; rfl

/-- an estimate accumulated on top of its previous value grows with every repetition (witness) -/
theorem accumulate_grows : iter (fun v => accumulate v [1]) 2 0 ≠ iter (fun v => accumulate v [1]) 1 0 := by decide +kernel

/-- text and final belief of `f` depend on the compiler state through the shutter belief only -/
def ByShutter (f : Gc.CS → Gc.Out) : Prop :=
  ∀ a b : Gc.CS, a.shutterOn = b.shutterOn → (f a).1 = (f b).1 ∧ (f a).2.shutterOn = (f b).2.shutterOn

theorem ByShutter.seq {f g : Gc.CS → Gc.Out} (hf : ByShutter f) (hg : ByShutter g) : ByShutter fun cs => Gc.seq (f cs) g := by
  intro a b h
  obtain ⟨f1, f2⟩ := hf a b h
  obtain ⟨g1, g2⟩ := hg _ _ f2
  exact ⟨by simp only [Gc.seq, f1, g1], g2⟩

theorem ByShutter.const (ss : List Ctl.Stmt) : ByShutter fun cs => (ss, cs) := fun _ _ h => ⟨rfl, h⟩

theorem dwell_byShutter {p : Option Rat} : ByShutter (Gc.dwell p) := by
  intro a b h
  unfold Gc.dwell
  split
  · exact ⟨rfl, h⟩
  · split <;> exact ⟨rfl, h⟩

theorem shutter_byShutter (cfg : Gc.Cfg) (on : Bool) : ByShutter (Gc.shutter cfg on) := by
  intro a b h
  rw [Gc.shutter_eq, Gc.shutter_eq, h]
  split
  · exact ⟨rfl, h⟩
  · exact ⟨rfl, rfl⟩

theorem toggle_byShutter (cfg : Gc.Cfg) (on : Bool) : ByShutter (Gc.toggle cfg on) :=
  ((((ByShutter.const _).seq dwell_byShutter).seq (shutter_byShutter cfg on)).seq
    (dwell_byShutter.seq (ByShutter.const _)))

theorem writeLoop_byShutter (cfg : Gc.Cfg) (ws : List (Ctl.G1W × Rat)) :
    ∀ prev, ByShutter (Gc.writeLoop cfg prev ws) := by
  induction ws with
  | nil => exact fun _ => ByShutter.const []
  | cons p rest ih =>
    intro prev a b h
    -- the toggle decision reads the belief only; then the toggle itself and the rest of the loop
    have ht : (Gc.toggleStep cfg p.2 a).1.1 = (Gc.toggleStep cfg p.2 b).1.1 ∧
        (Gc.toggleStep cfg p.2 a).1.2.shutterOn = (Gc.toggleStep cfg p.2 b).1.2.shutterOn ∧
        (Gc.toggleStep cfg p.2 a).2 = (Gc.toggleStep cfg p.2 b).2 := by
      unfold Gc.toggleStep
      rw [h]
      split
      · exact ⟨(toggle_byShutter cfg false a b h).1, (toggle_byShutter cfg false a b h).2, rfl⟩
      · split
        · exact ⟨(toggle_byShutter cfg true a b h).1, (toggle_byShutter cfg true a b h).2, rfl⟩
        · exact ⟨rfl, h, rfl⟩
    obtain ⟨r1, r2⟩ := ih (some p.1) _ _ ht.2.1
    exact ⟨by simp only [Gc.writeLoop, ht.1, ht.2.2, r1], by simpa only [Gc.writeLoop] using r2⟩

/-- **writing the same matrix twice emits the same instructions twice**: what `write` emits depends on the compiler state only
through the shutter belief, which after a closed path is what it was (`hsame`) -/
theorem write_twice (cfg : Gc.Cfg) (m : List Gc.Pt) (cs : Gc.CS) (o : Gc.Out) (h : Gc.write cfg m cs = .ok o)
    (hsame : o.2.shutterOn = cs.shutterOn) :
    ∃ o', Gc.write cfg m o.2 = .ok o' ∧ o'.1 = o.1 := by
  obtain ⟨ws, hm, rfl⟩ := Gc.write_eq_ok h
  refine ⟨_, by rw [Gc.write, hm]; rfl, ?_⟩
  exact ((((writeLoop_byShutter cfg ws none).seq dwell_byShutter).seq (ByShutter.const _)) _ cs hsame).1

/-- the caller's list arguments: the frame condition of `flatten` is C16's -/
theorem args_frame (h : Cont.Heap) (l ℓ : Nat) (hℓ : ℓ < h.length) : (Cont.hFlatten h l).1.cell ℓ = h.cell ℓ :=
  (C16.flatten_frame h l ℓ hℓ).1

end Femto.C09
