/-
C10 — no NaN or infinity ever reaches a path or a program.
The guards are modelled and proved; the floating-point arithmetic inside the builders (what produces a NaN in the first
place) is runtime behaviour and is tied by the degenerate-argument grid of the correspondence run (partial claim).
-/
import FemtoVerif.Model.Finite
import FemtoVerif.Props.C04

namespace Femto.C10
open Femto Femto.Fin

private theorem mapM_option_cons {α β : Type} (f : α → Option β) (a : α) (l : List α) :
    (a :: l).mapM f = (f a).bind fun b => (l.mapM f).map (b :: ·) := by
  rw [List.mapM_cons]
  cases f a with
  | none => rfl
  | some b => cases l.mapM f <;> rfl

private theorem mapM_some_mem {α β : Type} {f : α → Option β} {l : List α} {rs : List β} (h : l.mapM f = some rs) :
    ∀ r ∈ rs, ∃ a ∈ l, f a = some r := by
  induction l generalizing rs with
  | nil => cases h; exact fun _ hr => nomatch hr
  | cons a t ih =>
    rw [mapM_option_cons] at h
    obtain ⟨b, hb, h⟩ := Option.bind_eq_some_iff.mp h
    obtain ⟨bs, hbs, rfl⟩ := Option.map_eq_some_iff.mp h
    exact List.forall_mem_cons.mpr ⟨⟨a, List.mem_cons_self, hb⟩, fun r hr =>
      let ⟨a', ha', hf⟩ := ih hbs r hr; ⟨a', List.mem_cons_of_mem _ ha', hf⟩⟩

private theorem mapM_none_of_mem {α β : Type} {f : α → Option β} {l : List α} {a : α} (ha : a ∈ l) (hf : f a = none) :
    l.mapM f = none := by
  induction l with
  | nil => cases ha
  | cons b t ih =>
    rw [mapM_option_cons]
    rcases List.mem_cons.mp ha with rfl | h
    · rw [hf]; rfl
    · rw [ih h]; cases f b <;> rfl

theorem addPath_ok_iff {t t' : List (Row Rat)} {rows : List ERow} :
    addPath t rows = .ok t' ↔ ∃ rs, rows.mapM castRow = some rs ∧ (∀ r ∈ rs, 0 < r.f) ∧ t' = t ++ rs := by
  unfold addPath
  cases rows.mapM castRow with
  | none => exact ⟨nofun, fun ⟨_, h, _⟩ => nomatch h⟩
  | some rs =>
    simp only [List.all_eq_true, decide_eq_true_eq, Option.some.injEq, exists_eq_left']
    split_ifs with h
    · rw [Except.ok.injEq, eq_comm, and_iff_right h]
    · exact ⟨nofun, fun h' => absurd h'.1 h⟩

/-- **What `add_path` accepts is finite and has positive feeds.**  (Finiteness is the type `Row Rat` of what is stored;
the statement says every stored row comes from a row all of whose entries are finite after the single-precision cast,
and that its feed is positive.) -/
theorem guard_sound (t : List (Row Rat)) (rows : List ERow) (t' : List (Row Rat)) (h : addPath t rows = .ok t') :
    ∃ rs, t' = t ++ rs ∧ (∀ r ∈ rs, 0 < r.f) ∧ (∀ r ∈ rs, ∃ e ∈ rows, castRow e = some r) :=
  let ⟨rs, hm, hf, e⟩ := addPath_ok_iff.mp h
  ⟨rs, e, hf, mapM_some_mem hm⟩

/-- **… and it rejects nothing else**: rows that are finite after the cast with positive feeds are appended unchanged -/
theorem guard_complete (t : List (Row Rat)) (rows : List ERow) (rs : List (Row Rat))
    (hm : rows.mapM castRow = some rs) (hf : ∀ r ∈ rs, 0 < r.f) : addPath t rows = .ok (t ++ rs) :=
  addPath_ok_iff.mpr ⟨rs, hm, hf, rfl⟩

/-- a row with a NaN, an infinity or a coordinate beyond the single-precision range is rejected, wherever it stands -/
theorem guard_rejects_nonfinite (t : List (Row Rat)) (rows : List ERow) (e : ERow) (he : e ∈ rows) (hc : castRow e = none) :
    addPath t rows = .error .nonFinite := by
  unfold addPath
  rw [mapM_none_of_mem he hc]

/-- **Invariant over every history**: whatever sequence of `add_path` calls is made — accepted or rejected, in any
order — every feed of the recorded trajectory is positive (and every value finite, by type) -/
theorem path_invariant (t : List (Row Rat)) (calls : List (List ERow)) (h0 : ∀ r ∈ t, 0 < r.f) :
    ∀ r ∈ history t calls, 0 < r.f := by
  induction calls generalizing t with
  | nil => exact h0
  | cons rows rest ih =>
    rw [history]
    cases hq : addPath t rows with
    | error e => exact ih t h0
    | ok t' =>
      obtain ⟨rs, -, hpos, rfl⟩ := addPath_ok_iff.mp hq
      exact ih _ (List.forall_mem_append.mpr ⟨h0, hpos⟩)

/-- values beyond the single-precision range become infinite in the cast (and are then rejected) -/
theorem cast32_overflow (q : Rat) (h : f32Overflow ≤ rabs q) : (cast32 (.fin q)).toRat? = none := by
  simp only [cast32]
  rw [if_neg (not_lt.mpr h)]
  split <;> rfl

/-- the local `fin?` of `formatArgsExt` -/
def finArg : Option Ext → Bool
  | some (.fin _) => true
  | none => true
  | _ => false

theorem formatArgsExt_eq (d : Nat) (x y z f : Option Ext) : formatArgsExt d x y z f =
    if [x, y, z, f].all finArg then
      Gc.formatArgs d (x.bind Ext.toRat?) (y.bind Ext.toRat?) (z.bind Ext.toRat?) (f.bind Ext.toRat?)
    else .error (.value "Try to write NaN or infinite values to the G-Code file") := by
  rw [List.all_cons, List.all_cons, List.all_cons, List.all_cons, List.all_nil, Bool.and_true, ← Bool.and_assoc, ← Bool.and_assoc]
  rfl

/-- **printing**: a non-finite argument makes `_format_args` raise; finite arguments go through the feed guard and the
formatting of the compiler model unchanged (whose printed feed is positive, `fmt_pos`) -/
theorem format_guard (d : Nat) (x y z f : Option Ext) :
    (∀ o ∈ [x, y, z, f], o = none ∨ ∃ q, o = some (.fin q)) →
      formatArgsExt d x y z f = Gc.formatArgs d (x.bind Ext.toRat?) (y.bind Ext.toRat?) (z.bind Ext.toRat?) (f.bind Ext.toRat?) := by
  intro h
  rw [formatArgsExt_eq, if_pos (List.all_eq_true.mpr fun o ho => ?_)]
  rcases h o ho with rfl | ⟨q, rfl⟩ <;> rfl

theorem format_guard_rejects (d : Nat) (x y z f : Option Ext) (e : Ext) (he : some e ∈ [x, y, z, f]) (hn : e.toRat? = none) :
    ∃ err, formatArgsExt d x y z f = .error err := by
  have hbad : finArg (some e) = false := by cases e <;> first | rfl | cases hn
  exact ⟨_, (formatArgsExt_eq d x y z f).trans
    (if_neg fun hall => Bool.false_ne_true (hbad.symm.trans (List.all_eq_true.mp hall _ he)))⟩

/-! ### degenerate requests behave like their limit case -/

section degenerate
open Real Femto.C04 Femto.Wg

theorem arcBendEnd_zero (p : P ℝ) (r : ℝ) (up : Bool) : arcBendEnd RT p 0 r up = p := by
  have ha : sbendAngle RT 0 r = 0 := by
    rw [sbendAngle, zero_div, RT_abs, abs_zero, zero_div, sub_zero, RT_arccos, Real.arccos_one]
  rw [arcBendEnd_eq, ha, Real.sin_zero, Real.cos_zero, sub_self, mul_zero, mul_zero, add_zero, add_zero]

/-- a circular S-bend with zero lateral offset has zero length: three coincident points, the path does not move -/
theorem arc_bend_zero (p : P ℝ) (r : ℝ) (hr : 0 < r) : arcBendEnd RT p 0 r false = p := arcBendEnd_zero p r false

/-- a sinusoidal segment with zero lateral and zero vertical offset is the straight line at the entry height and depth, at
every abscissa and for every flatness and frequency -/
theorem sin_flat (p : P ℝ) (dx fp wy wz x : ℝ) : sinAt RT p dx 0 0 fp wy wz x = ⟨x, p.y, p.z⟩ := by
  simp only [sinAt, mul_zero, zero_mul, add_zero]

/-- an arc of zero sweep does not move -/
theorem circ_zero_sweep (p : P ℝ) (r a : ℝ) : circEnd RT p r a a = p := circAt_self p r a

/-- every sample of an arc of zero sweep is the start point (the three coincident points the fallback count produces) -/
theorem circ_zero_sweep_samples (p : P ℝ) (r a : ℝ) (n : Nat) : ∀ q ∈ circSamples RT p r a a n, q = p := by
  intro q hq
  obtain ⟨t, ht, rfl⟩ := List.mem_map.mp hq
  rw [mem_linspaceK_self ht, circAt_self]

theorem advance_zero (q : P ℝ) : advance q (RT.abs 0) = q := by apply P_ext <;> simp [advance]

/-- a coupler with zero lateral offset and zero interaction length does not move; neither does such an interferometer -/
theorem arc_coupler_zero (p : P ℝ) (r : ℝ) (hr : 0 < r) : arcCouplerEnd RT p 0 r 0 false false = p := by
  rw [arcCouplerEnd, neg_zero, arc_bend_zero _ r hr, advance_zero, arc_bend_zero _ r hr]

theorem arc_mzi_zero (p : P ℝ) (r : ℝ) (hr : 0 < r) : arcMziEnd RT p 0 r 0 0 false false = p := by
  rw [arcMziEnd, arc_coupler_zero _ r hr, advance_zero, arc_coupler_zero _ r hr]

end degenerate

example : addPath [] [⟨.fin 1, .fin 2, .fin 0, .fin 5, .fin 0⟩] = .ok [⟨1, 2, 0, 5, 0⟩] := by decide +kernel
example : addPath [] [⟨.fin 1, .nan, .fin 0, .fin 5, .fin 0⟩] = .error .nonFinite := by decide +kernel
example : addPath [] [⟨.fin (10 ^ 39), .fin 2, .fin 0, .fin 5, .fin 0⟩] = .error .nonFinite := by decide +kernel
example : addPath [] [⟨.fin 1, .fin 2, .fin 0, .fin 0, .fin 0⟩] = .error .badFeed := by decide +kernel

end Femto.C10
