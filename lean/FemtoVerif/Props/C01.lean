/-
C01 — emitted G-code replays the compiled path point for point.
The specification (`expectedFrom`, `printed`) is in `Spec/C01.lean`, where the driver can run it.
-/
import FemtoVerif.Proofs.WriteLemmas
import FemtoVerif.Proofs.Fmt
import Mathlib.Tactic.Push


namespace Femto.C01
open Femto.Ctl Femto.Gc

theorem write_of_printed {cfg : Cfg} {m : List Pt} {ws : List (G1W × Rat)} (hp : printed cfg m = .ok ws) (cs : CS) :
    write cfg m cs = .ok (seq (seq (writeLoop cfg none ws cs) (dwell cfg.longPause)) fun cs => (emit [.blank], cs)) := by
  unfold printed at hp; unfold write; rw [hp]; rfl

theorem formatArgs_full {d : Nat} {x y z f : Rat} {w : G1W}
    (h : formatArgs d (some x) (some y) (some z) (some f) = .ok w) :
    fullW w = true ∧ w.decs = [d, d, d, d] ∧ w.x = some (fmt d x) ∧ w.y = some (fmt d y) ∧ w.z = some (fmt d z)
      ∧ w.f = some (fmt d f) := by
  obtain ⟨rfl, -⟩ := formatArgs_ok h
  simp [fullW]

theorem printed_full (cfg : Cfg) (m : List Pt) (ws : List (G1W × Rat)) (h : printed cfg m = .ok ws) :
    (∀ p ∈ ws, fullW p.1 = true ∧ p.1.decs = [cfg.digits, cfg.digits, cfg.digits, cfg.digits]) ∧
      ws.map Prod.snd = m.map (·.s) :=
  mapM_formatPt (Q := fun w => fullW w = true ∧ w.decs = [cfg.digits, cfg.digits, cfg.digits, cfg.digits])
    (fun hf => ⟨(formatArgs_full hf).1, (formatArgs_full hf).2.1⟩) h

theorem printed_marks {cfg : Cfg} {m : List Pt} {ws : List (G1W × Rat)} (hp : printed cfg m = .ok ws)
    (hs : ∀ p ∈ m, p.s = 0 ∨ p.s = 1) : ∀ p ∈ ws, p.2 = 0 ∨ p.2 = 1 := by
  intro p hp'
  have : p.2 ∈ m.map (·.s) := (printed_full cfg m ws hp).2 ▸ List.mem_map_of_mem hp'
  obtain ⟨pt, hpt, he⟩ := List.mem_map.mp this
  exact he ▸ hs pt hpt

private theorem maybeG1_run (b : Bool) (prev : Option G1W) (w : G1W) (p : Pos) (s : Bool) (hw : fullW w = true)
    (hprev : ∀ w', prev = some w' → p = posOf w') :
    Triple (execFlat (flattenStmts (maybeG1 b prev w))) p s
      (if posOf w = p then [] else [{ src := p, dst := posOf w, feed := w.f, shutter := s, g9 := false }]) (posOf w) s := by
  unfold maybeG1
  split
  · exact flattenStmts_emit _ ▸ g1_run hw p s
  · rename_i h
    push Not at h
    obtain rfl := hprev w h.2.symm
    simpa [flattenStmts] using Triple.nil

/-- the invariant of the point loop: the controller stands on the point the compiler last printed (`prev`), its shutter as the
compiler believes -/
theorem writeLoop_run (cfg : Cfg) (ws : List (G1W × Rat)) (hfull : ∀ p ∈ ws, fullW p.1 = true)
    (hs : ∀ p ∈ ws, p.2 = 0 ∨ p.2 = 1) :
    ∀ (prev : Option G1W) (cs : CS) (p : Pos), (∀ w', prev = some w' → p = posOf w') →
      Triple (execFlat (flattenStmts (writeLoop cfg prev ws cs).1)) p cs.shutterOn (expectedFrom p ws) (lastPos p ws)
        (writeLoop cfg prev ws cs).2.shutterOn := by
  induction ws with
  | nil => intro prev cs p _; exact Triple.nil
  | cons hd rest ih =>
    obtain ⟨w, s⟩ := hd
    intro prev cs p hprev
    obtain ⟨t, tc⟩ := toggleStep_run cfg s cs (hs (w, s) (by simp)) p
    have g := maybeG1_run (toggleStep cfg s cs).2 prev w p (decide (s = 1)) (hfull (w, s) (by simp)) hprev
    have r := ih (fun q hq => hfull q (by simp [hq])) (fun q hq => hs q (by simp [hq])) (some w) (toggleStep cfg s cs).1.2
      (posOf w) (fun w' hw' => by injection hw' with hw'; rw [hw'])
    simp only [writeLoop, flattenStmts_append]
    exact (t.append g).append (tc ▸ r)

theorem writeLoop_replays (cfg : Cfg) (ws : List (G1W × Rat)) :
    ∀ (prev : Option G1W) (cs : CS) (σ : St),
      (∀ p ∈ ws, fullW p.1 = true) → (∀ p ∈ ws, p.2 = 0 ∨ p.2 = 1) → σ.absMode = true →
      σ.shutter = cs.shutterOn → (∀ w', prev = some w' → σ.pos = posOf w') →
      movesOf (execFlat (flattenStmts (writeLoop cfg prev ws cs).1) σ).2 = expectedFrom σ.pos ws ∧
      (execFlat (flattenStmts (writeLoop cfg prev ws cs).1) σ).1.shutter = (writeLoop cfg prev ws cs).2.shutterOn ∧
      (execFlat (flattenStmts (writeLoop cfg prev ws cs).1) σ).1.absMode = true ∧
      (execFlat (flattenStmts (writeLoop cfg prev ws cs).1) σ).1.pos = lastPos σ.pos ws := by
  intro prev cs σ hfull hs habs hsh hprev
  obtain ⟨a, b, c, d⟩ := writeLoop_run cfg ws hfull hs prev cs σ.pos hprev σ rfl habs hsh
  exact ⟨a, d, c, b⟩

theorem write_run (cfg : Cfg) (m : List Pt) (cs : CS) (o : Out) (ws : List (G1W × Rat))
    (hw : write cfg m cs = .ok o) (hp : printed cfg m = .ok ws) (hs : ∀ p ∈ m, p.s = 0 ∨ p.s = 1) (p : Pos) :
    Triple (execFlat (flattenStmts o.1)) p cs.shutterOn (expectedFrom p ws) (lastPos p ws) o.2.shutterOn := by
  obtain rfl := Except.ok.inj ((write_of_printed hp cs).symm.trans hw)
  have l := writeLoop_run cfg ws (fun q h => ((printed_full cfg m ws hp).1 q h).1) (printed_marks hp hs) none cs p (by simp)
  obtain ⟨q1, s1⟩ := dwell_quiet cfg.longPause (writeLoop cfg none ws cs).2
  simp only [seq, flattenStmts_append, flattenStmts_emit, s1]
  simpa using (l.append (Triple.quiet q1 _ _)).append (Triple.quiet (is := [.blank]) (by simp [quiet]) _ _)

/-- **C01, main theorem.** For every configuration, every point matrix whose shutter column holds only 0 and 1 and
that `write` accepts, every compiler state and every controller state in absolute mode whose shutter agrees with the
compiler's belief: interpreting what `write` emitted performs exactly `expectedFrom` of the printed points —
no point skipped, no motion added, in order, each at its own feed, shutter open iff the point is marked open —
and leaves the controller's shutter equal to the compiler's belief. -/
theorem write_replays (cfg : Cfg) (m : List Pt) (cs : CS) (o : Out) (σ : St) (ws : List (G1W × Rat))
    (hw : write cfg m cs = .ok o) (hp : printed cfg m = .ok ws) (hs : ∀ p ∈ m, p.s = 0 ∨ p.s = 1)
    (habs : σ.absMode = true) (hsh : σ.shutter = cs.shutterOn) :
    movesOf (execFlat (flattenStmts o.1) σ).2 = expectedFrom σ.pos ws ∧
      (execFlat (flattenStmts o.1) σ).1.shutter = o.2.shutterOn :=
  have ⟨a, _, _, d⟩ := write_run cfg m cs o ws hw hp hs σ.pos σ rfl habs hsh
  ⟨a, d⟩

theorem write_final_state (cfg : Cfg) (m : List Pt) (cs : CS) (o : Out) (σ : St) (ws : List (G1W × Rat))
    (hw : write cfg m cs = .ok o) (hp : printed cfg m = .ok ws) (hs : ∀ p ∈ m, p.s = 0 ∨ p.s = 1)
    (habs : σ.absMode = true) (hsh : σ.shutter = cs.shutterOn) :
    (execFlat (flattenStmts o.1) σ).1.pos = lastPos σ.pos ws ∧ (execFlat (flattenStmts o.1) σ).1.absMode = true :=
  have ⟨_, b, c, _⟩ := write_run cfg m cs o ws hw hp hs σ.pos σ rfl habs hsh
  ⟨b, c⟩

theorem writeLoop_final_shutter (cfg : Cfg) (ws : List (G1W × Rat)) (hs : ∀ p ∈ ws, p.2 = 0 ∨ p.2 = 1) (prev : Option G1W) (cs : CS) :
    (writeLoop cfg prev ws cs).2.shutterOn = (ws.map fun p => decide (p.2 = 1)).getLastD cs.shutterOn := by
  induction ws generalizing prev cs with
  | nil => rfl
  | cons hd rest ih =>
    rw [writeLoop, ih (fun p hp => hs p (List.mem_cons_of_mem _ hp)), (toggleStep_run cfg hd.2 cs (hs hd List.mem_cons_self) {}).2]
    exact List.getLastD_cons.symm

theorem write_final_shutter (cfg : Cfg) (m : List Pt) (cs : CS) (o : Out)
    (hw : write cfg m cs = .ok o) (hs : ∀ p ∈ m, p.s = 0 ∨ p.s = 1) :
    o.2.shutterOn = (match m.getLast? with | some p => decide (p.s = 1) | none => cs.shutterOn) := by
  obtain ⟨ws, hp, rfl⟩ := write_eq_ok hw
  have e : ws.map (fun p => decide (p.2 = 1)) = m.map fun p => decide (p.s = 1) := by
    simpa [List.map_map, Function.comp_def] using congrArg (List.map (decide <| · = 1)) (printed_full cfg m ws hp).2
  simp only [seq]
  rw [(dwell_quiet cfg.longPause _).2, writeLoop_final_shutter cfg ws (printed_marks hp hs), e, List.getLastD_eq_getLast?,
    List.getLast?_map]
  cases m.getLast? <;> rfl

theorem write_ends_closed {cfg : Cfg} {m : List Pt} {cs : CS} {o : Out} (hw : write cfg m cs = .ok o)
    (hs : ∀ p ∈ m, p.s = 0 ∨ p.s = 1) (hc : ∀ p, m.getLast? = some p → p.s = 0) (h0 : cs.shutterOn = false) :
    o.2.shutterOn = false := by
  rw [write_final_shutter cfg m cs o hw hs]
  cases hl : m.getLast? with
  | none => exact h0
  | some q => simp [hc q hl]

/-- a first row marked closed is reached with the shutter closed, whatever the shutter was before -/
theorem first_point_closed (prev : Pos) (w : G1W) (rest : List (G1W × Rat)) (mv : Move)
    (h : (expectedFrom prev ((w, 0) :: rest)).head? = some mv) (hne : posOf w ≠ prev) : mv.shutter = false := by
  simp [expectedFrom, hne] at h
  rw [← h]

/-- every number word of every emitted `G1` is printed with the configured number of decimals -/
theorem write_digits (cfg : Cfg) (m : List Pt) (ws : List (G1W × Rat)) (hp : printed cfg m = .ok ws) :
    ∀ p ∈ ws, p.1.decs = [cfg.digits, cfg.digits, cfg.digits, cfg.digits] :=
  fun p h => ((printed_full cfg m ws hp).1 p h).2

theorem mapM_error_of_mem {α β ε : Type} {f : α → Except ε β} {l : List α} {a : α} {e : ε} (ha : a ∈ l) (he : f a = .error e) :
    ∃ e', l.mapM f = .error e' := by
  -- the elements before `a` fail, or `a` does
  obtain ⟨l₁, l₂, rfl⟩ := List.append_of_mem ha
  rw [List.mapM_append, List.mapM_cons, he]
  cases l₁.mapM f <;> exact ⟨_, rfl⟩

/-- a feed below the guard makes `write` raise.  `write` formats every point before it emits the first line, so a raising `write`
emits nothing and leaves the state alone: the error case of the model carries no output (C03's crash argument uses this) -/
theorem write_error (cfg : Cfg) (m : List Pt) (cs : CS) (p : Pt) (hp : p ∈ m) (hf : p.f < 1 / pow10 cfg.digits) :
    ∃ e, write cfg m cs = .error e := by
  have he : formatPt cfg p = .error (.value "Try to move with F <= 0.0 mm/s") := by
    simp only [formatPt, formatArgs, hf, if_true, Except.map]
  obtain ⟨e, h⟩ := mapM_error_of_mem hp he
  exact ⟨e, by rw [write, h]; rfl⟩

/-- the printed value is within half a unit of the last printed decimal of the exact value -/
theorem printed_value_error (d : Nat) (q : Rat) : |fmt d q - q| ≤ 1 / (2 * pow10 d) := fmt_error d q

/-! non-vacuity: a closed move in mid-path, so that a toggle coincides with a displacement (where `maybeG1` must still print) -/

private def demoCfg : Cfg := { shiftX := 1/2, flipX := true, neff := 2 }
private def demoM : List Pt :=
  [⟨0, 0, 0, 5, 0⟩, ⟨0, 0, 0, 5, 1⟩, ⟨1, 0, 0, 20, 1⟩, ⟨2, 1, 0, 20, 0⟩, ⟨2, 1, 0, 20, 1⟩, ⟨3, 1, 0, 20, 1⟩, ⟨3, 1, 0, 20, 0⟩,
   ⟨0, 0, 0, 5, 0⟩]

example : (match write demoCfg demoM {}, printed demoCfg demoM with
    | .ok o, .ok ws => decide (movesOf (execFlat (flattenStmts o.1) {}).2 = expectedFrom {} ws) && (expectedFrom {} ws).length == 5
    | _, _ => false) = true := by decide +kernel

end Femto.C01
