/-
C12 — reported dwell and fabrication times agree with the program.
-/
import FemtoVerif.Proofs.Session
import FemtoVerif.Gen.Data
import FemtoVerif.Props.C01


namespace Femto.C12
open Femto.Ctl Femto.Gc

/-- **Dwell accounting.** For every configuration and every finite sequence of compiler operations — arbitrarily
nested REPEAT / FOR blocks, zero, negative and `None` pauses, and an exception raised at any position — the total the
compiler reports equals the dwell content of the emitted program text with loop bodies counted once per iteration
(and the text is balanced, otherwise `totalDwell` would be `none`). -/
theorem dwell_accounting (cfg : Cfg) (ops : List Op) (hh : headerClean cfg.header = true) :
    totalDwell (flattenStmts (session cfg ops).1) = some (session cfg ops).2.dwellTotal := by
  obtain ⟨h1, h2⟩ := session_ok cfg ops hh
  simp [totalDwell, structure?_flattenStmts _ h1, h2]

/-- the same total is what the reference controller accumulates when it **executes** the program, from any state -/
theorem executed_dwell (cfg : Cfg) (ops : List Op) (hh : headerClean cfg.header = true) (σ : St) :
    (execStmts (session cfg ops).1 σ).1.dwell = σ.dwell + (session cfg ops).2.dwellTotal := by
  rw [execStmts_dwell, (session_ok cfg ops hh).2]

/-- the four header files shipped with the library (`Gen/Data.lean`, generated from `/repo`) satisfy the header hypothesis -/
theorem shipped_headers_clean : ∀ h ∈ Femto.Gen.headers, headerClean h.2.2 = true := by decide

/-! ### fabrication time of a closed path

`LaserPath.fabrication_time` tiles the recorded arrays `scan` times and sums distance over the arriving feed.
`dist` is a parameter with the single law `dist p p = 0` (no square root is needed for the statement). -/

section fab
variable {P : Type}

def segTimes (dist : P → P → Rat) : List (P × Rat) → Rat
  | [] => 0
  | [_] => 0
  | a :: b :: t => dist a.1 b.1 / b.2 + segTimes dist (b :: t)

/-- `np.tile(arr, scan)` -/
def tile (scan : Nat) (l : List (P × Rat)) : List (P × Rat) := (List.replicate scan l).flatten

/-- `LaserPath.fabrication_time` -/
def fabTime (dist : P → P → Rat) (scan : Nat) (l : List (P × Rat)) : Rat := segTimes dist (tile scan l)

theorem segTimes_append (dist : P → P → Rat) (a : List (P × Rat)) (x y : P × Rat) (b : List (P × Rat)) :
    segTimes dist (a ++ x :: y :: b) = segTimes dist (a ++ [x]) + dist x.1 y.1 / y.2 + segTimes dist (y :: b) := by
  induction a with
  | nil => simp [segTimes]
  | cons h t ih =>
    cases t with
    | nil => simp [segTimes]; ring
    | cons h2 t2 =>
      simp only [List.cons_append, segTimes] at ih ⊢
      rw [ih]; ring

theorem segTimes_join (dist : P → P → Rat) (hd : ∀ p, dist p p = 0) (a b : List (P × Rat))
    (h : ∀ x y, a.getLast? = some x → b.head? = some y → x.1 = y.1) :
    segTimes dist (a ++ b) = segTimes dist a + segTimes dist b := by
  cases b with
  | nil => simp [segTimes]
  | cons y b =>
    rcases List.eq_nil_or_concat a with rfl | ⟨i, x, rfl⟩
    · simp [segTimes]
    · rw [List.concat_eq_append, List.append_assoc, List.singleton_append, segTimes_append, h x y (by simp) rfl, hd]
      simp

/-- **Closed path.** When the path ends where it starts, the estimate is `scan` times the travel time of one pass. -/
theorem fabtime_closed_path (dist : P → P → Rat) (hd : ∀ p, dist p p = 0) (scan : Nat) (l : List (P × Rat))
    (hclosed : l.head?.map Prod.fst = l.getLast?.map Prod.fst) :
    fabTime dist scan l = scan * segTimes dist l := by
  unfold fabTime tile
  induction scan with
  | zero => simp [segTimes]
  | succ n ih =>
    rw [List.replicate_succ, List.flatten_cons, segTimes_join dist hd, ih]
    · push_cast; ring
    · -- a further copy, if there is one, starts with the head of `l`, which is where `l` ends
      intro x y hx hy
      have hy' : l.head? = some y := by
        cases l with
        | nil => cases hx
        | cons a t => cases n with
          | zero => cases hy
          | succ m => exact hy
      rw [hy', hx] at hclosed
      exact (Option.some.inj hclosed).symm

end fab

section pass
variable (dist : Pos → Pos → Rat)

def travel (ms : List Move) : Rat :=
  (ms.map fun m => match m.feed with | some f => dist m.src m.dst / f | none => 0).sum

def stations (ws : List (G1W × Rat)) : List (Pos × Rat) := ws.map fun w => (posOf w.1, w.1.f.getD 0)

theorem travel_append (a b : List Move) : travel dist (a ++ b) = travel dist a + travel dist b := by
  simp [travel, List.map_append, List.sum_append]

/-- a point that repeats its predecessor makes no move and counts `dist p p / f = 0`; a point without a feed word counts 0 on both
sides (`x / 0 = 0`) -/
theorem travel_expected (hd : ∀ p, dist p p = 0) (prev : Pos) (f0 : Rat) (ws : List (G1W × Rat)) :
    travel dist (expectedFrom prev ws) = segTimes dist ((prev, f0) :: stations ws) := by
  induction ws generalizing prev f0 with
  | nil => rfl
  | cons hd' rest ih =>
    obtain ⟨w, s⟩ := hd'
    rw [expectedFrom, travel_append, ih (posOf w) (w.f.getD 0)]
    simp only [stations, List.map_cons, segTimes]
    by_cases hpos : posOf w = prev
    · simp [hpos, travel, hd]
    · cases w.f <;> simp [hpos, travel]

/-- **One pass of the compiled program.** Interpreting what `write` emitted for a point matrix takes, in travel, exactly the
sum over consecutive printed points of distance over the arriving feed, starting from where the machine stands. -/
theorem compiled_pass_travel (hd : ∀ p, dist p p = 0) (cfg : Cfg) (m : List Pt) (cs : CS) (o : Out) (σ : St)
    (ws : List (G1W × Rat)) (hw : write cfg m cs = .ok o) (hp : printed cfg m = .ok ws) (hs : ∀ p ∈ m, p.s = 0 ∨ p.s = 1)
    (habs : σ.absMode = true) (hsh : σ.shutter = cs.shutterOn) :
    travel dist (movesOf (execFlat (flattenStmts o.1) σ).2) = segTimes dist ((σ.pos, 0) :: stations ws) := by
  rw [(Femto.C01.write_replays cfg m cs o σ ws hw hp hs habs hsh).1]
  exact travel_expected dist hd σ.pos 0 ws

/-- **The estimate is `scan` passes of the compiled program.** For a closed path whose recorded points `l` are printed as
`ws`, if the compilation preserves the distances between consecutive points (`hiso`: rotation, flips and shift are isometries;
index ratio 1; the coordinates are printed exactly) then the estimate `fabTime` over the recorded points is the number of
scans times the travel time of the moves of the compiled program, run from its first point. -/
theorem fabtime_is_scan_passes {P : Type} (dist0 : P → P → Rat) (hd0 : ∀ p, dist0 p p = 0) (hd : ∀ p, dist p p = 0)
    (scan : Nat) (l : List (P × Rat)) (hclosed : l.head?.map Prod.fst = l.getLast?.map Prod.fst)
    (cfg : Cfg) (m : List Pt) (cs : CS) (o : Out) (σ : St) (ws : List (G1W × Rat))
    (hw : write cfg m cs = .ok o) (hp : printed cfg m = .ok ws) (hs : ∀ p ∈ m, p.s = 0 ∨ p.s = 1)
    (habs : σ.absMode = true) (hsh : σ.shutter = cs.shutterOn)
    (hstart : ∀ w, ws.head? = some w → σ.pos = posOf w.1)
    (hiso : segTimes dist (stations ws) = segTimes dist0 l) :
    fabTime dist0 scan l = scan * travel dist (movesOf (execFlat (flattenStmts o.1) σ).2) := by
  rw [fabtime_closed_path dist0 hd0 scan l hclosed, compiled_pass_travel dist hd cfg m cs o σ ws hw hp hs habs hsh, ← hiso]
  congr 1
  cases ws with
  | nil => simp [stations, segTimes]
  | cons w rest =>
    have := hstart w rfl
    simp only [stations, List.map_cons, segTimes, this, hd, zero_div, zero_add]

end pass

example : totalDwell (flattenStmts (session { header := Femto.Gen.header_pharos }
    [.rep 3 [.dwell (some 1), .forr "i" 2 [.dwell (some (1/4)), .raise, .dwell (some 5)]], .dvar ["i"]]).1)
    = some (session { header := Femto.Gen.header_pharos }
    [.rep 3 [.dwell (some 1), .forr "i" 2 [.dwell (some (1/4)), .raise, .dwell (some 5)]], .dvar ["i"]]).2.dwellTotal :=
  dwell_accounting _ _ (by decide)

/-! non-vacuity of `fabtime_is_scan_passes` (`hw`, `hiso`, `hclosed`): a closed path compiled with an origin shift and a y flip;
Manhattan distance, to stay in ℚ -/
section nonvacuity
private def oabs (a b : Option Rat) : Rat := match a, b with | some p, some q => rabs (p - q) | _, _ => 0
private def manh (p q : Pos) : Rat := oabs p.x q.x + oabs p.y q.y + oabs p.z q.z
private def manh0 (p q : Rat × Rat × Rat) : Rat := rabs (p.1 - q.1) + rabs (p.2.1 - q.2.1) + rabs (p.2.2 - q.2.2)
private def cfgE : Cfg := { header := Femto.Gen.header_uwe, shiftX := 1/2, flipY := true }
private def mE : List Pt := [⟨0, 0, 0, 5, 0⟩, ⟨0, 0, 0, 5, 1⟩, ⟨1, 0, 0, 2, 1⟩, ⟨1, 1/4, 0, 2, 1⟩, ⟨0, 0, 0, 4, 1⟩, ⟨0, 0, 0, 4, 0⟩]
private def lE : List ((Rat × Rat × Rat) × Rat) := mE.map fun p => ((p.x, p.y, p.z), p.f)

example : (match write cfgE mE {}, printed cfgE mE with
    | .ok _, .ok ws => decide (segTimes manh (stations ws) = segTimes manh0 lE) && decide (ws.length = 6) &&
        decide (lE.head?.map Prod.fst = lE.getLast?.map Prod.fst)
    | _, _ => false) = true := by decide +kernel
end nonvacuity


end Femto.C12
