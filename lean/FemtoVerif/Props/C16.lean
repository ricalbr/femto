/-
C16 — devices and writers keep exactly what they were given, routed by type.
-/
import FemtoVerif.Model.Containers
import Mathlib.Data.List.TakeWhile

namespace Femto.C16
open Femto.Cont

def pureList (k : Ty) (l : List Item) : Prop := ∀ o ∈ flatList l, o.2 = k

/-- **routing invariant**: every collection holds objects of its own exact type only -/
def Inv (d : Dev) : Prop := ∀ k, pureList k (d.get k)

theorem flatList_append (a b : List Item) : flatList (a ++ b) = flatList a ++ flatList b := by
  induction a with
  | nil => simp [flatList]
  | cons x t ih => simp [flatList, ih, List.append_assoc]

theorem pureList_append {k : Ty} {a b : List Item} (ha : pureList k a) (hb : pureList k b) : pureList k (a ++ b) := by
  intro o ho
  rw [flatList_append] at ho
  rcases List.mem_append.mp ho with h | h
  · exact ha o h
  · exact hb o h

theorem get_set_same {d : Dev} {k : Ty} {l : List Item} (hk : ∀ n, k ≠ .foreign n) : (d.set k l).get k = l := by
  cases k with
  | foreign n => exact absurd rfl (hk n)
  | _ => rfl

theorem get_set_other {d : Dev} {k k' : Ty} {l : List Item} (h : k ≠ k') : (d.set k l).get k' = d.get k' := by
  cases k <;> cases k' <;> first | rfl | exact absurd rfl h

theorem keyOf_pure (v : Item) (k : Ty) (h : keyOf v = .ok k) : pureList k [v] := by
  intro o ho
  rw [flatList, flatList, List.append_nil] at ho
  unfold keyOf at h
  split at h
  · cases h; rw [flatItem, List.mem_singleton] at ho; rw [ho]
  · cases h
  · split at h
    · rename_i hall
      cases h
      rw [flatItem, flatList, flatItem, List.singleton_append, List.mem_cons] at ho
      rcases ho with rfl | ho
      · rfl
      · exact of_decide_eq_true (List.all_eq_true.mp hall o ho)
    · cases h
  · cases h

/-- the values of a list that `parse_objects` files under key `k`, in order -/
def filed (k : Ty) (items : List Item) : List Item := items.filter fun v => decide (keyOf v = .ok k)

theorem filed_pure (k : Ty) (items : List Item) : pureList k (filed k items) := by
  induction items with
  | nil => intro o ho; simp [filed, flatList] at ho
  | cons v rest ih =>
    unfold filed at ih ⊢
    rw [List.filter_cons]
    split
    · rename_i hk
      exact pureList_append (a := [v]) (keyOf_pure v k (by simpa using hk)) ih
    · exact ih

private def dlookup (d : List (Ty × List Item)) (k : Ty) : List Item :=
  match d with
  | [] => []
  | (k', l) :: rest => if k' = k then l else dlookup rest k

private def keysNodup (d : List (Ty × List Item)) : Prop := (d.map (·.1)).Nodup

private theorem dlookup_absent (d : List (Ty × List Item)) (k : Ty) (hk : k ∉ d.map (·.1)) : dlookup d k = [] := by
  induction d with
  | nil => rfl
  | cons q t ih =>
    obtain ⟨kq, lq⟩ := q
    simp only [List.map_cons, List.mem_cons, not_or] at hk
    simp [dlookup, Ne.symm hk.1, ih hk.2]

private theorem dlookup_of_mem (d : List (Ty × List Item)) (hnd : keysNodup d) (p : Ty × List Item) (hp : p ∈ d) :
    dlookup d p.1 = p.2 := by
  induction d with
  | nil => simp at hp
  | cons q t ih =>
    obtain ⟨hq, hnd'⟩ := List.nodup_cons.mp hnd
    rcases List.mem_cons.mp hp with rfl | hp
    · simp [dlookup]
    · have : q.1 ≠ p.1 := fun e => hq (List.mem_map.mpr ⟨p, hp, e.symm⟩)
      simp [dlookup, this, ih hnd' hp]

private theorem dlookup_dictAdd (d : List (Ty × List Item)) (k k0 : Ty) (v : Item) :
    dlookup (dictAdd d k v) k0 = if k = k0 then dlookup d k0 ++ [v] else dlookup d k0 := by
  induction d with
  | nil => by_cases h : k = k0 <;> simp [dictAdd, dlookup, h]
  | cons p t ih =>
    obtain ⟨k', l⟩ := p
    simp only [dictAdd]
    by_cases h1 : k' = k
    · subst h1
      by_cases h2 : k' = k0
      · subst h2; simp [dlookup]
      · simp [dlookup, h2]
    · simp only [h1, if_false, dlookup]
      by_cases h2 : k' = k0
      · subst h2; simp [Ne.symm h1]
      · simp [h2, ih]

private theorem dictAdd_keys (d : List (Ty × List Item)) (k : Ty) (v : Item) :
    (dictAdd d k v).map (·.1) = if k ∈ d.map (·.1) then d.map (·.1) else d.map (·.1) ++ [k] := by
  induction d with
  | nil => simp [dictAdd]
  | cons p t ih =>
    obtain ⟨k', l⟩ := p
    simp only [dictAdd]
    by_cases h1 : k' = k
    · subst h1; simp only [if_true, List.map_cons, List.mem_cons, true_or]
    · simp only [h1, if_false, List.map_cons, ih, List.mem_cons, Ne.symm h1, false_or]
      split <;> rfl

private theorem dictAdd_nodup (d : List (Ty × List Item)) (k : Ty) (v : Item) (h : keysNodup d) : keysNodup (dictAdd d k v) := by
  unfold keysNodup at h ⊢
  rw [dictAdd_keys]
  split
  · exact h
  · rename_i hn
    exact List.nodup_append.mpr ⟨h, by simp, by intro a ha b hb; simp at hb; subst hb; intro e; subst e; exact hn ha⟩

/-- the routing invariant, the accepted case and the rejection of unsupported values all read off this -/
private theorem groupByKey_spec (items : List Item) (d0 d : List (Ty × List Item)) (h : groupByKey items d0 = .ok d) :
    (∀ v ∈ items, ∃ k, keyOf v = .ok k) ∧ (keysNodup d0 → keysNodup d) ∧
      ∀ k, dlookup d k = dlookup d0 k ++ filed k items := by
  induction items generalizing d0 with
  | nil => cases h; simp [filed]
  | cons v rest ih =>
    simp only [groupByKey] at h
    cases hk : keyOf v with
    | error e => rw [hk] at h; cases h
    | ok k =>
      rw [hk] at h
      obtain ⟨h1, h2, h3⟩ := ih _ h
      refine ⟨?_, fun hnd => h2 (dictAdd_nodup d0 k v hnd), fun k0 => ?_⟩
      · rintro w (_ | ⟨_, hw⟩)
        · exact ⟨k, hk⟩
        · exact h1 w hw
      · rw [h3, dlookup_dictAdd]
        by_cases hkk : k = k0
        · subst hkk; simp [filed, hk, List.append_assoc]
        · have : ¬ (Except.ok k : Except CErr Ty) = .ok k0 := by intro he; injection he with he; exact hkk he
          simp [filed, hk, hkk, this]

theorem applyGroups_cons (dev : Dev) (k : Ty) (e : List Item) (rest : List (Ty × List Item)) :
    applyGroups dev ((k, e) :: rest) =
      match (writerExtend k (dev.get k) e).2 with
      | some err => (dev.set k (writerExtend k (dev.get k) e).1, some err)
      | none => applyGroups (dev.set k (writerExtend k (dev.get k) e).1) rest := by
  cases k <;> rfl

theorem applyGroups_foreign (dev : Dev) (n : Nat) (e : List Item) (rest : List (Ty × List Item)) :
    applyGroups dev ((.foreign n, e) :: rest) = (dev, some .typeError) := rfl

theorem flatList_objs (os : List (Nat × Ty)) : flatList (os.map fun o => .obj o.1 o.2) = os := by
  induction os with
  | nil => rfl
  | cons o rest ih => simp [flatList, flatItem, ih]

theorem appendLoop_eq (k : Ty) (w : List Item) (os : List (Nat × Ty)) :
    appendLoop k w os = (w ++ (os.takeWhile fun o => isInst k o.2).map fun o => .obj o.1 o.2,
      if os.all fun o => isInst k o.2 then none else some .typeError) := by
  induction os generalizing w with
  | nil => simp [appendLoop]
  | cons o rest ih =>
    obtain ⟨i, t⟩ := o
    rw [appendLoop, List.takeWhile_cons, List.all_cons]
    cases h : isInst k t
    · simp
    · rw [if_pos rfl, ih, if_pos rfl, Bool.true_and, List.map_cons, List.append_assoc]; rfl

/-- a collection after an accepted `extend`: groups kept for waveguides and Nasu waveguides, objects one by one for the
other three -/
def stored (k : Ty) (w e : List Item) : List Item :=
  match k with
  | .wg | .nasu => w ++ e
  | _ => w ++ (flatList e).map fun o => .obj o.1 o.2

private theorem stored_nil (k : Ty) (w : List Item) : stored k w [] = w := by
  cases k <;> simp [stored, flatList]

/-- what a writer holds after a group, accepted or refused: the one-by-one loop keeps what it appended before the refusal,
hence an initial segment -/
theorem writerExtend_spec (k : Ty) (w e : List Item) :
    ∃ x, (writerExtend k w e).1 = w ++ x ∧ flatList x <+: flatList e ∧
      ((writerExtend k w e).2 = none → (writerExtend k w e).1 = stored k w e) := by
  cases k with
  | wg =>
    rw [writerExtend]
    split
    · exact ⟨[], (List.append_nil w).symm, List.nil_prefix, nofun⟩
    · split
      · exact ⟨e, rfl, List.prefix_rfl, fun _ => rfl⟩
      · exact ⟨[], (List.append_nil w).symm, List.nil_prefix, nofun⟩
  | nasu =>
    rw [writerExtend]
    split
    · exact ⟨e, rfl, List.prefix_rfl, fun _ => rfl⟩
    · exact ⟨[], (List.append_nil w).symm, List.nil_prefix, nofun⟩
  | foreign n => exact ⟨[], (List.append_nil w).symm, List.nil_prefix, nofun⟩
  | tc | utc | mk =>
    simp only [writerExtend, appendLoop_eq]
    refine ⟨_, rfl, ?_, fun h => ?_⟩
    · rw [flatList_objs]; exact List.takeWhile_prefix _
    · -- accepted: the test held of every object, so the loop took them all
      have hall := List.all_eq_true.mp (by_contra fun hn => by rw [if_neg hn] at h; cases h)
      rw [List.takeWhile_eq_self_iff.mpr hall]; rfl

theorem inv_set {dev : Dev} (hi : Inv dev) {k : Ty} {l : List Item} (hl : pureList k l) : Inv (dev.set k l) := by
  intro k'
  by_cases hkk : k = k'
  · subst hkk
    by_cases hk : ∃ n, k = .foreign n
    · obtain ⟨n, rfl⟩ := hk
      exact hi _
    · rw [get_set_same fun n e => hk ⟨n, e⟩]; exact hl
  · rw [get_set_other hkk]; exact hi k'

private theorem applyGroups_inv (dev : Dev) (d : List (Ty × List Item)) (hi : Inv dev) (hd : ∀ p ∈ d, pureList p.1 p.2) :
    Inv (applyGroups dev d).1 := by
  induction d generalizing dev with
  | nil => exact hi
  | cons p rest ih =>
    obtain ⟨k, e⟩ := p
    obtain ⟨hp, hrest⟩ := List.forall_mem_cons.mp hd
    obtain ⟨x, hx, hpre, -⟩ := writerExtend_spec k (dev.get k) e
    have hset := inv_set hi (hx ▸ pureList_append (hi k) fun o ho => hp o (hpre.subset ho))
    rw [applyGroups_cons]
    split
    · exact hset
    · exact ih _ hset hrest

/-- **Routed by type.** Whatever list is given to `extend` — groups, mixtures, unsupported values, accepted or rejected —
afterwards every collection still holds objects of its own exact type only -/
theorem routed_by_type (dev : Dev) (items : List Item) (hi : Inv dev) : Inv (devExtend dev items).1 := by
  unfold devExtend
  cases hg : groupByKey items [] with
  | error e => exact hi
  | ok d =>
    obtain ⟨_, hnd, hlk⟩ := groupByKey_spec items [] d hg
    refine applyGroups_inv dev d hi fun p hp => ?_
    rw [← dlookup_of_mem d (hnd List.nodup_nil) p hp, hlk]
    exact filed_pure p.1 items

theorem runCalls_inv (calls : List Call) : ∀ dev, Inv dev → Inv (runCalls dev calls) := by
  induction calls with
  | nil => exact fun _ h => h
  | cons c rest ih =>
    intro dev h
    cases c with
    | append v => exact ih _ (routed_by_type dev _ h)
    | extend l => exact ih _ (routed_by_type dev l h)

/-- **… for every history** of append / extend calls starting from an empty device -/
theorem history_routed (calls : List Call) : Inv (runCalls {} calls) :=
  runCalls_inv calls {} fun k o ho => by cases k <;> cases ho

private theorem applyGroups_ok (dev : Dev) (d : List (Ty × List Item)) (hnd : keysNodup d)
    (h : (applyGroups dev d).2 = none) :
    (∀ n, Ty.foreign n ∉ d.map (·.1)) ∧
      ∀ k0, (∀ n, k0 ≠ .foreign n) → (applyGroups dev d).1.get k0 = stored k0 (dev.get k0) (dlookup d k0) := by
  induction d generalizing dev with
  | nil => exact ⟨fun _ => List.not_mem_nil, fun k0 _ => (stored_nil k0 _).symm⟩
  | cons p rest ih =>
    obtain ⟨k, e⟩ := p
    obtain ⟨hknot, hnd'⟩ := List.nodup_cons.mp hnd
    rw [applyGroups_cons] at h ⊢
    cases hw : (writerExtend k (dev.get k) e).2 with
    | some err => rw [hw] at h; cases h
    | none =>
      rw [hw] at h
      have hk : ∀ n, k ≠ .foreign n := by rintro n rfl; cases hw
      obtain ⟨-, -, -, hok⟩ := writerExtend_spec k (dev.get k) e
      have hst := hok hw
      obtain ⟨hf, hget⟩ := ih _ hnd' h
      refine ⟨fun n hn => ?_, fun k0 hk0 => ?_⟩
      · rcases List.mem_cons.mp hn with hn | hn
        · exact hk n hn.symm
        · exact hf n hn
      · simp only
        rw [hget k0 hk0]
        by_cases hkk : k = k0
        · subst hkk
          rw [get_set_same hk, dlookup_absent rest k hknot, stored_nil, hst]
          simp [dlookup]
        · rw [get_set_other hkk]
          simp [dlookup, hkk]

theorem devExtend_ok (dev : Dev) (items : List Item) (h : (devExtend dev items).2 = none) :
    (∀ v ∈ items, ∃ k, keyOf v = .ok k ∧ ∀ n, k ≠ .foreign n) ∧
      ∀ k, (∀ n, k ≠ .foreign n) → (devExtend dev items).1.get k = stored k (dev.get k) (filed k items) := by
  unfold devExtend at h ⊢
  cases hg : groupByKey items [] with
  | error e => rw [hg] at h; cases h
  | ok d =>
    rw [hg] at h
    obtain ⟨hok, hnd, hlk⟩ := groupByKey_spec items [] d hg
    obtain ⟨hf, hget⟩ := applyGroups_ok dev d (hnd List.nodup_nil) h
    refine ⟨fun v hv => ?_, fun k hk => ?_⟩
    · obtain ⟨k, hk⟩ := hok v hv
      refine ⟨k, hk, fun n hn => ?_⟩
      -- `v` is filed under its key, so that key is in the dictionary, and the dispatch met no unsupported key
      have : v ∈ dlookup d k := by rw [hlk]; simp [dlookup, filed, hv, hk]
      rw [hn, dlookup_absent d _ (hf n)] at this
      cases this
    · rw [hget k hk, hlk]; rfl

/-- **An accepted `extend` stores exactly what it was given**: every collection grows by the values filed under its own
type, in the order given — groups of waveguides / Nasu waveguides intact, trench columns and markers one by one — and
nothing else changes -/
theorem holds_accepted (dev : Dev) (items : List Item) (h : (devExtend dev items).2 = none) (k : Ty) (hk : ∀ n, k ≠ .foreign n) :
    (devExtend dev items).1.get k = stored k (dev.get k) (filed k items) :=
  (devExtend_ok dev items h).2 k hk

/-- **Unsupported values are rejected**: a list that contains, at top level, an object of an unsupported type or a group
starting with one makes `extend` raise -/
theorem foreign_rejected (dev : Dev) (items : List Item) (v : Item) (n : Nat) (hv : v ∈ items)
    (hk : keyOf v = .ok (.foreign n) ∨ ∃ e, keyOf v = .error e) : (devExtend dev items).2 ≠ none := by
  intro h
  obtain ⟨k, hk', hs⟩ := (devExtend_ok dev items h).1 v hv
  rcases hk with hk | ⟨e, hk⟩
  · rw [hk] at hk'; cases hk'; exact hs n rfl
  · rw [hk] at hk'; cases hk'

theorem mixed_group_rejected (i : Nat) (t : Ty) (rest : List Item) (o : Nat × Ty) (ho : o ∈ flatList rest) (hne : o.2 ≠ t) :
    keyOf (.grp (.obj i t :: rest)) = .error .typeError := by
  simp only [keyOf]
  rw [if_neg]
  intro hall
  have := List.all_eq_true.mp hall o ho
  simp at this; exact hne this

theorem cell_append_lt {h : Heap} {x : List Ref} {l : Nat} (hl : l < h.length) : Heap.cell (h ++ [x]) l = h.cell l := by
  simp [Heap.cell, List.getD, List.getElem?_append_left hl]

theorem cell_set_ne {h : Heap} {w l : Nat} {x : List Ref} (hne : l ≠ w) : Heap.cell (h.set w x) l = h.cell l := by
  simp [Heap.cell, List.getD, List.getElem?_set_ne (Ne.symm hne)]

/-- **`flatten` leaves every existing list cell as it was** (it writes a fresh cell only) -/
theorem flatten_frame (h : Heap) (l : Nat) (ℓ : Nat) (hℓ : ℓ < h.length) :
    (hFlatten h l).1.cell ℓ = h.cell ℓ ∧ (hFlatten h l).2 = h.length := by
  simp only [hFlatten, hCopy]
  refine ⟨?_, trivial⟩
  rw [cell_set_ne (Nat.ne_of_lt hℓ), cell_append_lt hℓ]

/-- **`extend` writes the writer's own cell only** -/
theorem extend_frame (h : Heap) (w l ℓ : Nat) (hne : ℓ ≠ w) : (hExtend h w l).cell ℓ = h.cell ℓ :=
  cell_set_ne hne

/-- splicing in the argument's own cell does change the caller's list (so the frame theorem is not vacuous):
`[a, [b, c]]` at address 0 becomes `[a, b, c]` -/
theorem flatten_in_place_mutates :
    (hFlattenInPlace [[.obj 1, .lst 1], [.obj 2, .obj 3]] 0).1.cell 0 ≠ Heap.cell [[.obj 1, .lst 1], [.obj 2, .obj 3]] 0 ∧
    (hFlatten [[.obj 1, .lst 1], [.obj 2, .obj 3]] 0).1.cell 0 = Heap.cell [[.obj 1, .lst 1], [.obj 2, .obj 3]] 0 ∧
    (hFlatten [[.obj 1, .lst 1], [.obj 2, .obj 3]] 0).1.cell 2 = [.obj 1, .obj 2, .obj 3] := by decide

/-! a history with a group, a rejected mixed group and an unsupported value -/
example : flatList (runCalls {} [.extend [.obj 1 .wg, .grp [.obj 2 .wg, .obj 3 .wg], .obj 4 .mk],
    .extend [.grp [.obj 5 .wg, .obj 6 .nasu]], .append (.obj 7 .nasu), .extend [.obj 8 .tc, .obj 9 (.foreign 0), .obj 10 .wg]]).wg
    = [(1, .wg), (2, .wg), (3, .wg)] := by decide +kernel

end Femto.C16
